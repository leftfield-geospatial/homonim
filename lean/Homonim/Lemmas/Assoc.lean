/-
  Association lists keyed on the first component.  `FS` (Model/FS.lean) and `Profile` (Model/Layout.lean) are the same
  structure: look-up is `find?` on the key, "put" is a new head over the list filtered on the key.  The three facts below are
  all that the file system (C10) and profile (C18) theorems use of it.
-/
namespace Homonim

section
variable {α β : Type} [BEq α] [LawfulBEq α] (l : List (α × β))

/-- a filter on the key does not disturb the look-up of a key it keeps: `find? q ∘ filter p` looks for `p ∧ q`, and at the
    key looked for `q` implies `p` -/
theorem find?_key_filter (keep : α → Bool) (k : α) (hk : keep k = true) :
    (l.filter fun e => keep e.1).find? (fun e => e.1 == k) = l.find? (fun e => e.1 == k) := by
  rw [List.find?_filter]
  congr 1; funext e
  rw [Bool.decide_and, Bool.decide_eq_true, Bool.decide_eq_true]
  cases h : e.1 == k
  · exact Bool.and_false _
  · rw [eq_of_beq h, hk]; rfl

theorem find?_put_same (k : α) (v : β) :
    ((k, v) :: l.filter fun e => e.1 != k).find? (fun e => e.1 == k) = some (k, v) :=
  List.find?_cons_of_pos (beq_self_eq_true k)

theorem find?_put_other (k k' : α) (v : β) (h : k' ≠ k) :
    ((k, v) :: l.filter fun e => e.1 != k).find? (fun e => e.1 == k') = l.find? (fun e => e.1 == k') :=
  calc _ = (l.filter fun e => e.1 != k).find? (fun e => e.1 == k') :=
        List.find?_cons_of_neg fun e => h (eq_of_beq e).symm
    _ = _ := find?_key_filter l (· != k) k' (bne_iff_ne.2 h)

end

end Homonim
