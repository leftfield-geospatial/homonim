/-
  The 4 x 4 up-sampling kernels `cubic` and `cubic_spline` (`Model/Cubic.lean`): the kernels are partitions of unity, the
  support is the bilinear pair grown by one pixel either way, and `resampleWide` obeys the laws `Lemmas/RefGrid.lean` asks of an
  up-sampling method, so that the theorems about `ImagePair.correctedWith` apply to `ImagePair.correctedWide`.
-/
import Homonim.Model.Cubic
import Homonim.Lemmas.RefGrid
import Mathlib.Tactic.Positivity

namespace Homonim

/-! ### the two kernels -/

/-- both kernels are even, given by one polynomial on `[0, 1]`, another on `(1, 2)`, and vanish beyond -/
def evenPieces (P1 P2 : Rat → Rat) (x : Rat) : Rat :=
  let a := if x < 0 then -x else x
  if a ≤ 1 then P1 a else if a < 2 then P2 a else 0

theorem cubicKernel_eq : cubicKernel = evenPieces (fun a => 3 / 2 * a * a * a - 5 / 2 * a * a + 1)
    (fun a => -1 / 2 * a * a * a + 5 / 2 * a * a - 4 * a + 2) := rfl

theorem bsplineKernel_eq : bsplineKernel = evenPieces (fun a => 2 / 3 - a * a + a * a * a / 2)
    (fun a => (2 - a) * (2 - a) * (2 - a) / 6) := rfl

theorem evenPieces_of_abs (P1 P2 : Rat → Rat) (x a : Rat) (ha : a = x ∨ a = -x) (h0 : 0 ≤ a) :
    evenPieces P1 P2 x = if a ≤ 1 then P1 a else if a < 2 then P2 a else 0 := by
  have : (if x < 0 then -x else x) = a := by
    rcases ha with rfl | rfl <;> split_ifs <;> linarith
  simp only [evenPieces, this]

/-- the four taps around a centre at sub-pixel position `f`, when the pieces join at 1 and the outer one ends in 0 at 2 -/
theorem evenPieces_taps (P1 P2 : Rat → Rat) (h1 : P1 1 = P2 1) (h2 : P2 2 = 0) (f : Rat) (hf0 : 0 ≤ f) (hf1 : f < 1) :
    evenPieces P1 P2 (-1 - f) + evenPieces P1 P2 (0 - f) + evenPieces P1 P2 (1 - f) + evenPieces P1 P2 (2 - f) =
      P2 (1 + f) + P1 f + P1 (1 - f) + P2 (2 - f) := by
  rw [evenPieces_of_abs P1 P2 (-1 - f) (1 + f) (Or.inr (by ring)) (by linarith),
    evenPieces_of_abs P1 P2 (0 - f) f (Or.inr (by ring)) hf0,
    evenPieces_of_abs P1 P2 (1 - f) (1 - f) (Or.inl rfl) (by linarith),
    evenPieces_of_abs P1 P2 (2 - f) (2 - f) (Or.inl rfl) (by linarith),
    if_pos hf1.le, if_pos (by linarith : 1 - f ≤ 1)]
  rcases hf0.eq_or_lt with rfl | hf
  · simp [h1, h2]
  · rw [if_neg (by linarith : ¬ (1 + f ≤ 1)), if_pos (by linarith : 1 + f < 2),
      if_neg (by linarith : ¬ (2 - f ≤ 1)), if_pos (by linarith : 2 - f < 2)]

theorem cubicKernel_sum_one (f : Rat) (h0 : 0 ≤ f) (h1 : f < 1) :
    cubicKernel (-1 - f) + cubicKernel (0 - f) + cubicKernel (1 - f) + cubicKernel (2 - f) = 1 := by
  rw [cubicKernel_eq, evenPieces_taps _ _ (by norm_num) (by norm_num) f h0 h1]
  ring

theorem bsplineKernel_sum_one (f : Rat) (h0 : 0 ≤ f) (h1 : f < 1) :
    bsplineKernel (-1 - f) + bsplineKernel (0 - f) + bsplineKernel (1 - f) + bsplineKernel (2 - f) = 1 := by
  rw [bsplineKernel_eq, evenPieces_taps _ _ (by norm_num) (by norm_num) f h0 h1]
  ring

/-- strictly positive inside the support `(-2, 2)`, zero outside -/
theorem bsplineKernel_pos_iff (x : Rat) : 0 ≤ bsplineKernel x ∧ (-2 < x → x < 2 → 0 < bsplineKernel x) := by
  have ha : 0 ≤ (if x < 0 then -x else x) := by split_ifs <;> linarith
  have hb : -2 < x → x < 2 → (if x < 0 then -x else x) < 2 := fun _ _ => by split_ifs <;> linarith
  rw [bsplineKernel_eq, evenPieces_of_abs _ _ x _ (by split_ifs <;> simp) ha]
  generalize (if x < 0 then -x else x) = a at ha hb
  split_ifs with h1 h2
  · have e : 2 / 3 - a * a + a * a * a / 2 = 1 / 6 + (1 - a) * (1 + a * (1 - a)) / 2 := by ring
    have : 0 ≤ 1 - a := by linarith
    have : 0 < 2 / 3 - a * a + a * a * a / 2 := by rw [e]; positivity
    exact ⟨this.le, fun _ _ => this⟩
  · have : 0 < 2 - a := by linarith
    have : 0 < (2 - a) * (2 - a) * (2 - a) / 6 := by positivity
    exact ⟨this.le, fun _ _ => this⟩
  · exact ⟨le_refl 0, fun hx1 hx2 => absurd (hb hx1 hx2) h2⟩

theorem bsplineKernel_nonneg (x : Rat) : 0 ≤ bsplineKernel x := (bsplineKernel_pos_iff x).1

/-! ### the 1-D support: the bilinear pair grown by one pixel either way -/

/-- sub-pixel position of the destination centre between the centres of pixels `bilinIdx` and `bilinIdx + 1` -/
def wideF (S D : Axis) (j : Int) : Rat :=
  ((2 * (D.edge j - S.o) + D.p - S.p - bilinIdx S D j * (2 * S.p) : Int) : Rat) / ((2 * S.p : Int) : Rat)

theorem wideWeights1_eq (k : Rat → Rat) (S D : Axis) (j : Int) :
    wideWeights1 k S D j =
      [(bilinIdx S D j - 1, k (-1 - wideF S D j)), (bilinIdx S D j, k (0 - wideF S D j)),
       (bilinIdx S D j + 1, k (1 - wideF S D j)), (bilinIdx S D j + 2, k (2 - wideF S D j))] := rfl

theorem wideF_range (S D : Axis) (hS : 0 < S.p) (j : Int) : 0 ≤ wideF S D j ∧ wideF S D j < 1 := by
  obtain ⟨h1, h2⟩ := bilinIdx_spec S D hS j
  have e := Int.mul_left_comm (bilinIdx S D j) 2 S.p
  rw [S.edge_succ] at h2
  have hd : (0 : Rat) < ((2 * S.p : Int) : Rat) := Int.cast_pos.2 (by omega)
  unfold wideF
  refine ⟨div_nonneg (Int.cast_nonneg ?_) hd.le, (div_lt_one hd).2 (Int.cast_lt.2 ?_)⟩ <;>
    unfold Axis.edge at h1 h2 ⊢ <;> omega

theorem mem_wideWeights1_fst (k : Rat → Rat) (S D : Axis) (j : Int) (iw : Int × Rat) (h : iw ∈ wideWeights1 k S D j) :
    bilinIdx S D j - 1 ≤ iw.1 ∧ iw.1 ≤ bilinIdx S D j + 2 := by
  rw [wideWeights1_eq] at h
  simp only [List.mem_cons, List.not_mem_nil, or_false] at h
  rcases h with rfl | rfl | rfl | rfl <;> dsimp only <;> omega

/-- the pixel containing the centre is the second or third of the support, with the kernel taken inside `(-2, 2)` -/
theorem nearest_mem_wideWeights1 (k : Rat → Rat) (S D : Axis) (hS : 0 < S.p) (j : Int) :
    ∃ d : Rat, (-2 < d ∧ d < 2) ∧ (nearestIdx S D j, k d) ∈ wideWeights1 k S D j := by
  obtain ⟨f0, f1⟩ := wideF_range S D hS j
  rw [wideWeights1_eq]
  rcases nearestIdx_cases S D hS j with h | h <;> rw [h]
  · exact ⟨_, ⟨by linarith, by linarith⟩, List.mem_cons_of_mem _ List.mem_cons_self⟩
  · exact ⟨_, ⟨by linarith, by linarith⟩, List.mem_cons_of_mem _ (List.mem_cons_of_mem _ List.mem_cons_self)⟩

theorem bspline_weight_nonneg (S D : Axis) (j : Int) (iw : Int × Rat) (h : iw ∈ wideWeights1 bsplineKernel S D j) :
    0 ≤ iw.2 := by
  rw [wideWeights1_eq] at h
  simp only [List.mem_cons, List.not_mem_nil, or_false] at h
  rcases h with rfl | rfl | rfl | rfl <;> exact bsplineKernel_nonneg _

theorem cubicSpline2_eq (Sr Sc Dr Dc : Axis) (img : ImgO) (jr jc : Int) :
    cubicSpline2 Sr Sc Dr Dc img jr jc =
      match img (nearestIdx Sr Dr jr) (nearestIdx Sc Dc jc) with
      | none => none
      | some _ => wmean (supp (· * ·) (wideWeights1 bsplineKernel Sr Dr jr) (wideWeights1 bsplineKernel Sc Dc jc) img) := rfl

theorem cubic2_eq (Sr Sc Dr Dc : Axis) (img : ImgO) (jr jc : Int) :
    cubic2 Sr Sc Dr Dc img jr jc =
      if ((wideWeights1 cubicKernel Sr Dr jr).all fun iw => (wideWeights1 cubicKernel Sc Dc jc).all fun kv =>
          (img iw.1 kv.1).isSome) = true then
        some ((wideWeights1 cubicKernel Sr Dr jr).flatMap fun iw => (wideWeights1 cubicKernel Sc Dc jc).map fun kv =>
          iw.2 * kv.2 * (img iw.1 kv.1).getD 0).sum
      else bilinear2 Sr Sc Dr Dc img jr jc := rfl

theorem sum_map_mul_left {β : Type} (k : ℚ) (g : β → ℚ) (l : List β) :
    (l.map fun b => k * g b).sum = k * (l.map g).sum := by
  induction l with
  | nil => simp
  | cons x xs ih => rw [List.map_cons, List.map_cons, List.sum_cons, List.sum_cons, ih, mul_add]

theorem sum_flatMap_mul_left {α β : Type} (k : ℚ) (φ : α → β → ℚ) (wr : List α) (wc : List β) :
    (wr.flatMap fun a => wc.map fun b => k * φ a b).sum = k * (wr.flatMap fun a => wc.map fun b => φ a b).sum := by
  induction wr with
  | nil => simp
  | cons y ys ih =>
    rw [List.flatMap_cons, List.flatMap_cons, List.sum_append, List.sum_append, ih, sum_map_mul_left, mul_add]

theorem sum_flatMap_weights (wr wc : List (Int × ℚ)) :
    (wr.flatMap fun iw => wc.map fun kv => iw.2 * kv.2).sum = (wr.map (·.2)).sum * (wc.map (·.2)).sum := by
  induction wr with
  | nil => simp
  | cons y ys ih =>
    rw [List.flatMap_cons, List.sum_append, ih, sum_map_mul_left, List.map_cons, List.sum_cons, add_mul]

/-! ### `resampleWide` as an up-sampling method -/

/-- valid iff the source pixel that contains the centre is: the rule of `nearest` and `bilinear` -/
theorem resampleWide_isSome (m : Wide) (Sr Sc Dr Dc : Axis) (hSr : 0 < Sr.p) (hSc : 0 < Sc.p) (img : ImgO) (jr jc : Int) :
    (resampleWide m Sr Sc Dr Dc img jr jc).isSome = (img (nearestIdx Sr Dr jr) (nearestIdx Sc Dc jc)).isSome := by
  cases m with
  | cubic =>
    show (cubic2 Sr Sc Dr Dc img jr jc).isSome = _
    rw [cubic2_eq]
    split_ifs with hall
    · obtain ⟨_, _, hwr⟩ := nearest_mem_wideWeights1 cubicKernel Sr Dr hSr jr
      obtain ⟨_, _, hwc⟩ := nearest_mem_wideWeights1 cubicKernel Sc Dc hSc jc
      exact (List.all_eq_true.1 (List.all_eq_true.1 hall _ hwr) _ hwc).symm
    · exact resample2_isSome .bilinear (by decide) Sr Sc Dr Dc hSr hSc img jr jc
  | cubicSpline =>
    show (cubicSpline2 Sr Sc Dr Dc img jr jc).isSome = _
    rw [cubicSpline2_eq]
    cases hn : img (nearestIdx Sr Dr jr) (nearestIdx Sc Dc jc) with
    | none => rfl
    | some v =>
      obtain ⟨dr, hdr, hwr⟩ := nearest_mem_wideWeights1 bsplineKernel Sr Dr hSr jr
      obtain ⟨dc, hdc, hwc⟩ := nearest_mem_wideWeights1 bsplineKernel Sc Dc hSc jc
      exact wmean_supp_isSome _ _ _ img
        (fun _ hiw _ hkv => mul_nonneg (bspline_weight_nonneg _ _ _ _ hiw) (bspline_weight_nonneg _ _ _ _ hkv))
        _ _ hwr hwc (mul_pos ((bsplineKernel_pos_iff dr).2 hdr.1 hdr.2) ((bsplineKernel_pos_iff dc).2 hdc.1 hdc.2)) (by rw [hn]; rfl)

/-- the 4 x 4 kernels read the image only on the 4 x 4 support -/
theorem resampleWide_congr (m : Wide) (Sr Sc Dr Dc : Axis) (hSr : 0 < Sr.p) (hSc : 0 < Sc.p) (f g : ImgO) (jr jc : Int)
    (h : ∀ a b, bilinIdx Sr Dr jr - 1 ≤ a ∧ a ≤ bilinIdx Sr Dr jr + 2 →
      bilinIdx Sc Dc jc - 1 ≤ b ∧ b ≤ bilinIdx Sc Dc jc + 2 → f a b = g a b) :
    resampleWide m Sr Sc Dr Dc f jr jc = resampleWide m Sr Sc Dr Dc g jr jc := by
  have hsup : ∀ (k : Rat → Rat), ∀ iw ∈ wideWeights1 k Sr Dr jr, ∀ kv ∈ wideWeights1 k Sc Dc jc,
      f iw.1 kv.1 = g iw.1 kv.1 :=
    fun k iw hiw kv hkv => h _ _ (mem_wideWeights1_fst _ _ _ _ _ hiw) (mem_wideWeights1_fst _ _ _ _ _ hkv)
  cases m with
  | cubic =>
    show cubic2 Sr Sc Dr Dc f jr jc = cubic2 Sr Sc Dr Dc g jr jc
    rw [cubic2_eq, cubic2_eq,
      all_congr_mem (wideWeights1 cubicKernel Sr Dr jr) _
        (fun iw => (wideWeights1 cubicKernel Sc Dc jc).all fun kv => (g iw.1 kv.1).isSome)
        fun iw hiw => all_congr_mem _ _ _ fun kv hkv => by rw [hsup cubicKernel iw hiw kv hkv],
      List.flatMap_congr fun iw hiw => List.map_congr_left fun kv hkv => by rw [hsup cubicKernel iw hiw kv hkv],
      show bilinear2 Sr Sc Dr Dc f jr jc = bilinear2 Sr Sc Dr Dc g jr jc from
        resample2_congr .bilinear (by decide) Sr Sc Dr Dc hSr hSc f g jr jc fun a b ha hb =>
          h a b (by omega) (by omega)]
  | cubicSpline =>
    show cubicSpline2 Sr Sc Dr Dc f jr jc = cubicSpline2 Sr Sc Dr Dc g jr jc
    rw [cubicSpline2_eq, cubicSpline2_eq, supp_congr _ _ _ f g (hsup bsplineKernel),
      h _ _ (by rcases nearestIdx_cases Sr Dr hSr jr with e | e <;> omega)
        (by rcases nearestIdx_cases Sc Dc hSc jc with e | e <;> omega)]

theorem cubic_weights1_sum (S D : Axis) (hS : 0 < S.p) (j : Int) :
    ((wideWeights1 cubicKernel S D j).map fun iw => iw.2).sum = 1 := by
  obtain ⟨f0, f1⟩ := wideF_range S D hS j
  simp only [wideWeights1_eq, List.map_cons, List.map_nil, List.sum_cons, List.sum_nil]
  linarith [cubicKernel_sum_one (wideF S D j) f0 f1]

/-- constants stay constant: the cubic weights are a partition of unity, the cubic-spline and fall-back means renormalised -/
theorem resampleWide_const (m : Wide) (Sr Sc Dr Dc : Axis) (hSr : 0 < Sr.p) (hSc : 0 < Sc.p) (img : ImgO) (k : ℚ)
    (hk : ∀ i j v, img i j = some v → v = k) (jr jc : Int) (g : ℚ)
    (h : resampleWide m Sr Sc Dr Dc img jr jc = some g) : g = k := by
  cases m with
  | cubic =>
    change cubic2 Sr Sc Dr Dc img jr jc = some g at h
    rw [cubic2_eq] at h
    split_ifs at h with hall
    · simp only [List.all_eq_true] at hall
      rw [List.flatMap_congr fun iw hiw => List.map_congr_left fun kv hkv =>
          show iw.2 * kv.2 * (img iw.1 kv.1).getD 0 = k * (iw.2 * kv.2) by
            obtain ⟨v, hv⟩ := Option.isSome_iff_exists.mp (hall iw hiw kv hkv)
            rw [hv, hk _ _ v hv, mul_comm]; rfl,
        sum_flatMap_mul_left, sum_flatMap_weights, cubic_weights1_sum Sr Dr hSr, cubic_weights1_sum Sc Dc hSc,
        mul_one, mul_one] at h
      exact (Option.some.inj h).symm
    · exact resample2_const .bilinear (by decide) Sr Sc Dr Dc img k hk jr jc g h
  | cubicSpline =>
    change cubicSpline2 Sr Sc Dr Dc img jr jc = some g at h
    rw [cubicSpline2_eq] at h
    split at h
    · cases h
    · exact wmean_supp_const _ _ _ img k hk g h

/-- homogeneous, with the same validity -/
theorem resampleWide_scale (m : Wide) (Sr Sc Dr Dc : Axis) (img : ImgO) (k : ℚ) (a b : Int) :
    resampleWide m Sr Sc Dr Dc (img.scale k) a b = (resampleWide m Sr Sc Dr Dc img a b).map (k * ·) := by
  cases m with
  | cubic =>
    show cubic2 Sr Sc Dr Dc (img.scale k) a b = (cubic2 Sr Sc Dr Dc img a b).map (k * ·)
    have hb : bilinear2 Sr Sc Dr Dc (img.scale k) a b = (bilinear2 Sr Sc Dr Dc img a b).map (k * ·) :=
      resample2_scale .bilinear Sr Sc Dr Dc img k a b
    rw [cubic2_eq, cubic2_eq, hb]
    simp only [ImgO.scale, Option.isSome_map, getD_map_mul, mul_left_comm _ k, sum_flatMap_mul_left]
    split_ifs <;> rfl
  | cubicSpline =>
    show cubicSpline2 Sr Sc Dr Dc (img.scale k) a b = (cubicSpline2 Sr Sc Dr Dc img a b).map (k * ·)
    rw [cubicSpline2_eq, cubicSpline2_eq]
    show (match (img (nearestIdx Sr Dr a) (nearestIdx Sc Dc b)).map (k * ·) with
      | none => none
      | some _ => _) = _
    cases img (nearestIdx Sr Dr a) (nearestIdx Sc Dc b) with
    | none => rfl
    | some y => exact wmean_supp_scale ..

/-! ### block transparency away from the seams -/

theorem ImagePair.correctedWide_eq_with (p : ImagePair) (model : Model) (kh kw : Nat) (n0 n1 : Rat) (ups : Wide) :
    p.correctedWide model kh kw n0 n1 ups = p.correctedWith (resampleWide ups p.Rr p.Rc p.Sr p.Sc) model kh kw n0 n1 := rfl

/-- block transparency for abstract windows, away from the seams (cf. `block_transparent_core`): the 4 x 4 support reaches
    one reference pixel further than the 2 x 2 support, which the overlap does not cover; it stays harmless where the pixel
    under the centre is not the first (last) of `pout`, or where `pout` starts (ends) with the processing window - beyond
    that no pixel carries parameters, in the block or in the whole run -/
theorem block_transparent_wide_core (p : ImagePair) (hSr : 0 < p.Sr.p) (hSc : 0 < p.Sc.p) (hRr : 0 < p.Rr.p)
    (hRc : 0 < p.Rc.p) (model : Model) (kh kw : Nat) (n0 n1 : Rat) (ups : Wide)
    (pinR poutR pinC poutC : Win1)
    (hR : Covers (refWin p.Sr p.Rr) pinR poutR (((kh / 2 : Nat) : Int) + 1))
    (hC : Covers (refWin p.Sc p.Rc) pinC poutC (((kw / 2 : Nat) : Int) + 1))
    (r c : Int) (hr : (roundTo p.Rr p.Sr poutR).lo ≤ r ∧ r < (roundTo p.Rr p.Sr poutR).hi)
    (hc : (roundTo p.Rc p.Sc poutC).lo ≤ c ∧ c < (roundTo p.Rc p.Sc poutC).hi)
    (hir : (poutR.lo = (refWin p.Sr p.Rr).lo ∨ poutR.lo + 1 ≤ nearestIdx p.Rr p.Sr r) ∧
           (poutR.hi = (refWin p.Sr p.Rr).hi ∨ nearestIdx p.Rr p.Sr r + 2 ≤ poutR.hi))
    (hic : (poutC.lo = (refWin p.Sc p.Rc).lo ∨ poutC.lo + 1 ≤ nearestIdx p.Rc p.Sc c) ∧
           (poutC.hi = (refWin p.Sc p.Rc).hi ∨ nearestIdx p.Rc p.Sc c + 2 ≤ poutC.hi)) :
    (p.restrictTo pinR pinC).correctedWide model kh kw n0 n1 ups r c = p.correctedWide model kh kw n0 n1 ups r c := by
  -- along each axis: a pixel of the 4-support that lies in the processing window is within one pixel of `pout`
  have key : ∀ (w pout : Win1) (n i0 a : Int), pout.lo ≤ n ∧ n ≤ pout.hi → n = i0 ∨ n = i0 + 1 →
      (pout.lo = w.lo ∨ pout.lo + 1 ≤ n) ∧ (pout.hi = w.hi ∨ n + 2 ≤ pout.hi) → i0 - 1 ≤ a ∧ a ≤ i0 + 2 →
      w.lo ≤ a ∧ a < w.hi → pout.lo - 1 ≤ a ∧ a ≤ pout.hi := by
    intro w pout n i0 a hn hc hi ha hw
    omega
  have kr := fun a => key _ poutR _ _ a (support_of_mem_roundTo p.Sr p.Rr hSr hRr poutR r hr).1
    (nearestIdx_cases p.Rr p.Sr hRr r) hir
  have kc := fun b => key _ poutC _ _ b (support_of_mem_roundTo p.Sc p.Rc hSc hRc poutC c hc).1
    (nearestIdx_cases p.Rc p.Sc hRc c) hic
  clear key hir hic
  rw [ImagePair.correctedWide_eq_with, ImagePair.correctedWide_eq_with]
  refine correctedWith_congr p (p.restrictTo pinR pinC) _ model kh kw n0 n1 r c
    (p.src.restrict_of_mem (round_subset_expand p.Rr p.Sr hRr hSr pinR poutR hR.out_sub r hr)
      (round_subset_expand p.Rc p.Sc hRc hSc pinC poutC hC.out_sub c hc))
    (fun a b => (bilinIdx p.Rr p.Sr r - 1 ≤ a ∧ a ≤ bilinIdx p.Rr p.Sr r + 2) ∧
      (bilinIdx p.Rc p.Sc c - 1 ≤ b ∧ b ≤ bilinIdx p.Rc p.Sc c + 2))
    (fun f g h => resampleWide_congr ups _ _ _ _ hRr hRc f g r c fun a b ha hb => h a b ⟨ha, hb⟩)
    fun a b hab => ?_
  by_cases hin : ((refWin p.Sr p.Rr).lo ≤ a ∧ a < (refWin p.Sr p.Rr).hi) ∧
      ((refWin p.Sc p.Rc).lo ≤ b ∧ b < (refWin p.Sc p.Rc).hi)
  · have ka := kr a hab.1 hin.1
    have kb := kc b hab.2 hin.2
    exact restrict_params_agree p hSr hSc hRr hRc pinR pinC model kh kw n0 n1 a b
      (fun x hx => hR.near x (by omega)) (fun y hy => hC.near y (by omega))
  · rw [ImagePair.params_eq, ImagePair.params_eq,
      imgParams_none_of_none model kh kw n0 n1 (srcDs_none_outside p hSr hSc hRr hRc a b hin),
      imgParams_none_of_none model kh kw n0 n1 (srcDs_none_outside (p.restrictTo pinR pinC) hSr hSc hRr hRc a b hin)]

/-- validity is the nearest parameter pixel's, whatever the kernel -/
theorem correctedWide_isSome_eq_nearest (p : ImagePair) (hRr : 0 < p.Rr.p) (hRc : 0 < p.Rc.p)
    (model : Model) (kh kw : Nat) (n0 n1 : Rat) (ups : Wide) (r c : Int) :
    (p.correctedWide model kh kw n0 n1 ups r c).isSome = (p.corrected model kh kw n0 n1 .nearest r c).isSome := by
  rw [ImagePair.correctedWide_eq_with, ImagePair.corrected_eq_with,
    correctedWith_isSome p _ model kh kw n0 n1 r c _ _ (resampleWide_isSome ups _ _ _ _ hRr hRc · r c),
    correctedWith_isSome p _ model kh kw n0 n1 r c _ _ (resample2_isSome .nearest (by decide) _ _ _ _ hRr hRc · r c)]

/-- a pair, and a source row, for the seam counterexample: a 16 x 4 source (constant 1) on an 8 x 2 reference of twice the
    pixel size whose value grows with the row; with 4-row blocks and overlap 2, block 0 outputs reference rows 0..3 and reads
    rows 0..5, so the gain of reference row 5 (3 x 3 kernel: rows 4..6) is fitted by the block from rows 4, 5 only; source
    row 7 (centre in reference row 3, the last of the output window) has the B-spline support rows 2..5 -/
def wideSeamPair : ImagePair :=
  { Sr := ⟨0, 1, 16⟩, Sc := ⟨0, 1, 4⟩, Rr := ⟨0, 2, 8⟩, Rc := ⟨0, 2, 2⟩
    src := fun r c => if 0 ≤ r ∧ r < 16 ∧ 0 ≤ c ∧ c < 4 then some 1 else none
    ref := fun i j => if 0 ≤ i ∧ i < 8 ∧ 0 ≤ j ∧ j < 2 then some (i + 1) else none }
def wideSeamRow : Int := 7

/-- the witness violates exactly the seam hypothesis of `block_transparent_wide`: every other hypothesis holds (positive pixel
    sizes, overlap 2 ≥ 3/2 + 1, the pixel is in block (0, 0)'s output window, `hic`, the first half of `hir`), the reference
    row containing the centre of source row 7 is row 3 = the last row of the block's output window `[0, 4)`, and another
    block follows (the processing window is `[0, 8)`) -/
theorem wideSeam_hypotheses :
    0 < wideSeamPair.Sr.p ∧ 0 < wideSeamPair.Sc.p ∧ 0 < wideSeamPair.Rr.p ∧ 0 < wideSeamPair.Rc.p ∧
    ((3 / 2 : Nat) : Int) + 1 ≤ 2 ∧
    ((wideSeamPair.blockRows 4 2 0).oout.lo ≤ wideSeamRow ∧ wideSeamRow < (wideSeamPair.blockRows 4 2 0).oout.hi) ∧
    ((wideSeamPair.blockCols 8 2 0).oout.lo ≤ 2 ∧ 2 < (wideSeamPair.blockCols 8 2 0).oout.hi) ∧
    (wideSeamPair.blockRows 4 2 0).pout.lo = (refWin wideSeamPair.Sr wideSeamPair.Rr).lo ∧
    (wideSeamPair.blockCols 8 2 0).pout.lo = (refWin wideSeamPair.Sc wideSeamPair.Rc).lo ∧
    (wideSeamPair.blockCols 8 2 0).pout.hi = (refWin wideSeamPair.Sc wideSeamPair.Rc).hi ∧
    nearestIdx wideSeamPair.Rr wideSeamPair.Sr wideSeamRow + 1 = (wideSeamPair.blockRows 4 2 0).pout.hi ∧
    (wideSeamPair.blockRows 4 2 0).pout.hi < (refWin wideSeamPair.Sr wideSeamPair.Rr).hi ∧
    1 < nBlocks (refWin wideSeamPair.Sr wideSeamPair.Rr).lo (refWin wideSeamPair.Sr wideSeamPair.Rr).hi 4 := by
  decide


end Homonim
