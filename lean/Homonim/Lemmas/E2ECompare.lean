/-
  Helper lemmas for E2ECompare (partition invariance of the comparison sums):
    * the points of a grid gathered block by block are a permutation of the points gathered over all rows and columns;
    * index lists of windows; the output windows of the blocks of one axis, concatenated in block order, are the index list
      of the processing window;
    * a block of a zero-overlap run computes the points of its output window exactly as the whole-image pair does.
-/
import Homonim.Model.CompareImage
import Homonim.Lemmas.Stats
import Homonim.Lemmas.RefGrid
import Homonim.Lemmas.Geom
import Homonim.Props.C06

namespace Homonim

theorem blockSums_nil : blockSums [] = CSums.zero := rfl

theorem accumulate_nil : accumulate [] = CSums.zero := rfl

/-- accumulating the sums of a row-major grid of blocks gives the sums of all their points -/
theorem accumulate_grid {ρ κ : Type} (rows : List ρ) (cols : List κ) (pts : ρ → κ → List (ℚ × ℚ)) :
    accumulate (rows.flatMap fun r => cols.map fun c => blockSums (pts r c)) =
      blockSums (rows.flatMap fun r => cols.flatMap fun c => pts r c) := by
  have := accumulate_map_blockSums (rows.flatMap fun r => cols.map (pts r))
  simp only [List.flatMap_def, List.map_flatten, List.map_map, List.flatten_flatten, Function.comp_def] at this ⊢
  exact this

/-! ### a grid of points, block by block -/

theorem flatMap_swap_perm {α β γ : Type} (l₁ : List α) (l₂ : List β) (f : α → β → List γ) :
    (l₁.flatMap fun a => l₂.flatMap fun b => f a b).Perm (l₂.flatMap fun b => l₁.flatMap fun a => f a b) := by
  induction l₁ with
  | nil => exact .of_eq (List.flatMap_eq_nil_iff.mpr fun _ _ => rfl).symm
  | cons a l₁ ih =>
    simp only [List.flatMap_cons]
    exact (ih.append_left _).trans (List.flatMap_append_perm l₂ _ _)

/-- the points of a grid gathered block by block (row-major blocks; block `(r, c)` holds the rows `ir r` and the columns
    `ic c`) are the points gathered over all rows and all columns, in another order -/
theorem grid_blocks_perm {ρ κ α β γ : Type} (f : α → β → Option γ) (rows : List ρ) (cols : List κ) (ir : ρ → List α)
    (ic : κ → List β) :
    (rows.flatMap fun r => cols.flatMap fun c => (ir r).flatMap fun i => (ic c).filterMap (f i)).Perm
      ((rows.flatMap ir).flatMap fun i => (cols.flatMap ic).filterMap (f i)) := by
  -- inside a row of blocks, move the loop over the block columns inside the loop over the pixel rows
  refine (List.Perm.flatMap_left _ fun r _ => flatMap_swap_perm _ _ _).trans (.of_eq ?_)
  simp only [← List.filterMap_flatMap]
  rw [← List.flatMap_assoc]

/-! ### index lists -/

theorem indices_empty (w : Win1) (h : w.hi ≤ w.lo) : w.indices = [] := by
  rw [Win1.indices, Int.toNat_of_nonpos (by omega)]; rfl

/-- the index list of `[a, c)` is that of `[a, b)` followed by that of `[b, c)` -/
theorem indices_append (a b c : Int) (hab : a ≤ b) (hbc : b ≤ c) :
    (Win1.mk a c).indices = (Win1.mk a b).indices ++ (Win1.mk b c).indices := by
  -- with `b = a + m`, `c = b + n` the three lists are maps over `range (m + n)`, `range m`, `range n`
  obtain ⟨m, rfl⟩ := Int.le.dest hab
  obtain ⟨n, rfl⟩ := Int.le.dest hbc
  simp only [Win1.indices, add_assoc, add_sub_cancel_left, add_sub_add_left_eq_sub,
    Int.toNat_add (Int.natCast_nonneg m) (Int.natCast_nonneg n), Int.toNat_natCast, List.range_add, List.map_append,
    List.map_map, Function.comp_def, Int.natCast_add]

/-- the list form of `tile_existsUnique`: the windows `w k = [g k, g (k+1))`, `k < K`, of a monotone sequence `g` enumerate
    `[g 0, g K)` in order -/
theorem indices_tiles (g : Nat → Int) (hg : ∀ k, g k ≤ g (k + 1)) (K : Nat) (w : Nat → Win1)
    (hw : ∀ k, k < K → w k = ⟨g k, g (k + 1)⟩) :
    (List.range K).flatMap (fun k => (w k).indices) = (Win1.mk (g 0) (g K)).indices := by
  induction K with
  | zero => exact (indices_empty _ le_rfl).symm
  | succ K ih =>
    rw [List.range_succ, List.flatMap_append, ih fun k hk => hw k (Nat.lt_succ_of_lt hk), List.flatMap_singleton,
      hw K (Nat.lt_succ_self K), ← indices_append _ _ _ (monotone_nat_of_le_succ hg (Nat.zero_le K)) (hg K)]

/-- **the output windows of the blocks, in order, enumerate the processing window** - also when it is empty or `B < A` (then
    there is no block); the list form of `out_blocks_partition_proc` -/
theorem indices_blocks (A B s v : Int) (hs : 0 < s) (hv : 0 ≤ v) :
    (List.range (nBlocks A B s)).flatMap (fun k => (procOut A B s v k).indices) = (Win1.mk A B).indices := by
  rw [indices_tiles _ (procBoundary_mono A B s hs.le) _ _ (procOut_eq_boundaries A B s v hs hv),
    procBoundary_nBlocks A B s hs, procBoundary, Int.natCast_zero, Int.zero_mul, Int.add_zero]
  -- the boundary sequence starts at `min A B`
  rcases le_total A B with h | h
  · rw [min_eq_left h]
  · rw [indices_empty ⟨A, B⟩ h, indices_empty ⟨min A B, B⟩ (le_min h le_rfl)]

/-! ### what one block computes -/

/-- over a window of reference pixels inside the block's reference window, the pair as the block sees it (source read
    through the expanded window) has the same jointly valid points as the whole pair -/
theorem restrict_cmpPts (p : ImagePair) (hSr : 0 < p.Sr.p) (hSc : 0 < p.Sc.p) (hRr : 0 < p.Rr.p)
    (hRc : 0 < p.Rc.p) (pinR pinC wr wc : Win1) (hr : pinR.lo ≤ wr.lo ∧ wr.hi ≤ pinR.hi)
    (hc : pinC.lo ≤ wc.lo ∧ wc.hi ≤ pinC.hi) :
    (p.restrictTo pinR pinC).cmpPts wr wc = p.cmpPts wr wc := by
  refine List.flatMap_congr fun i hi => List.filterMap_congr fun j hj => ?_
  have hi := (mem_indices_iff wr i).1 hi
  have hj := (mem_indices_iff wc j).1 hj
  have hin : (pinR.lo ≤ i ∧ i < pinR.hi) ∧ pinC.lo ≤ j ∧ j < pinC.hi :=
    ⟨⟨hr.1.trans hi.1, hi.2.trans_le hr.2⟩, hc.1.trans hj.1, hj.2.trans_le hc.2⟩
  have h2 : (p.restrictTo pinR pinC).ref i j = p.ref i j := p.ref.restrict_of_mem hin.1 hin.2
  rw [(restrict_point_agree p hSr hSc hRr hRc pinR pinC i j fun _ _ => hin).1, h2]

/-- with zero overlap the input window of a block is its output window -/
theorem procIn_zero (A B s : Int) (k : Nat) : procIn A B s 0 k = procOut A B s 0 k := by
  simp only [procIn, procOut, Int.mul_zero, Int.add_zero, Int.sub_zero]

/-- the sums of block `(kr, kc)` are the sums of the whole pair's points over the block's output windows -/
theorem cmpSumsBlock_eq (p : ImagePair) (hSr : 0 < p.Sr.p) (hSc : 0 < p.Sc.p) (hRr : 0 < p.Rr.p)
    (hRc : 0 < p.Rc.p) (sr sc : Int) (kr kc : Nat) :
    p.cmpSumsBlock sr sc kr kc =
      blockSums (p.cmpPts (procOut (refWin p.Sr p.Rr).lo (refWin p.Sr p.Rr).hi sr 0 kr)
        (procOut (refWin p.Sc p.Rc).lo (refWin p.Sc p.Rc).hi sc 0 kc)) := by
  simp only [ImagePair.cmpSumsBlock, ImagePair.blockRows, ImagePair.blockCols, block1, procIn_zero]
  exact congrArg blockSums (restrict_cmpPts p hSr hSc hRr hRc _ _ _ _ ⟨le_rfl, le_rfl⟩ ⟨le_rfl, le_rfl⟩)

end Homonim
