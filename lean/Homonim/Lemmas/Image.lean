/-
  The whole-image models (`FuseImage`, `FuseBlocks`, `PartialMask`) build every pipeline from the same few operations on
  optional images: a restriction to a window, an all-valid test over a window, an erosion, and the kernel fit on the
  co-gridded block of two images (`Lemmas/ImageFit.lean`).  The model spells them out each time; here each gets a name of
  its own, the model's definitions are instances of them by `rfl`, and the lemmas are stated once.
-/
import Homonim.Model.PartialMask

namespace Homonim

/-! ### windows -/

theorem mem_indices_iff (w : Win1) (x : Int) : x ∈ w.indices ↔ w.lo ≤ x ∧ x < w.hi := by
  unfold Win1.indices
  simp only [List.mem_map, List.mem_range]
  constructor
  · rintro ⟨k, hk, rfl⟩; omega
  · intro h; exact ⟨(x - w.lo).toNat, by omega, by omega⟩

theorem all_congr_mem {α : Type} (l : List α) (f g : α → Bool) (h : ∀ x ∈ l, f x = g x) : l.all f = l.all g := by
  rw [Bool.eq_iff_iff, List.all_eq_true, List.all_eq_true]
  exact ⟨fun H x hx => h x hx ▸ H x hx, fun H x hx => (h x hx).symm ▸ H x hx⟩

/-! ### restriction -/

theorem ImgO.restrict_of_mem (img : ImgO) {wr wc : Win1} {i j : Int} (hi : wr.lo ≤ i ∧ i < wr.hi)
    (hj : wc.lo ≤ j ∧ j < wc.hi) : img.restrict wr wc i j = img i j :=
  if_pos ⟨hi.1, hi.2, hj.1, hj.2⟩

theorem ImgO.restrict_eq_some (img : ImgO) {wr wc : Win1} {i j : Int} {x : Rat} (h : img.restrict wr wc i j = some x) :
    img i j = some x := by
  unfold ImgO.restrict at h
  split at h
  · exact h
  · cases h

/-! ### every pixel of a window valid -/

/-- every position of the window `wr x wc` holds a valid pixel (`coverRef`, `coverSrc`) -/
def ImgO.allValid (img : ImgO) (wr wc : Win1) : Bool :=
  wr.indices.all fun a => wc.indices.all fun b => (img a b).isSome

theorem ImgO.allValid_congr (f g : ImgO) (wr wc : Win1)
    (h : ∀ a b, wr.lo ≤ a ∧ a < wr.hi → wc.lo ≤ b ∧ b < wc.hi → f a b = g a b) :
    f.allValid wr wc = g.allValid wr wc :=
  all_congr_mem _ _ _ fun a ha => all_congr_mem _ _ _ fun b hb => by
    rw [h a b ((mem_indices_iff _ _).1 ha) ((mem_indices_iff _ _).1 hb)]

theorem ImgO.allValid_iff (f : ImgO) (wr wc : Win1) :
    f.allValid wr wc = true ↔ ∀ a b, wr.lo ≤ a ∧ a < wr.hi → wc.lo ≤ b ∧ b < wc.hi → (f a b).isSome = true := by
  simp only [ImgO.allValid, List.all_eq_true, mem_indices_iff]
  exact ⟨fun H a b ha hb => H a ha b hb, fun H a ha b hb => H a b ha hb⟩

/-! ### erosion on the integer grid -/

/-- erosion by the `(kh + 2) x (kw + 2)` rectangle anchored at its centre (`keepEroded`, `keepErodedSrc`, `erodeAt`) -/
def erodeI (kh kw : Nat) (K : Int → Int → Bool) (i j : Int) : Bool :=
  (List.range (kh + 2)).all fun (di : Nat) => (List.range (kw + 2)).all fun (dj : Nat) =>
    K (i - (((kh + 2) / 2 : Nat) : Int) + di) (j - (((kw + 2) / 2 : Nat) : Int) + dj)

theorem erodeI_iff (kh kw : Nat) (K : Int → Int → Bool) (i j : Int) :
    erodeI kh kw K i j = true ↔ ∀ di, di < kh + 2 → ∀ dj, dj < kw + 2 →
      K (i - (((kh + 2) / 2 : Nat) : Int) + (di : Nat)) (j - (((kw + 2) / 2 : Nat) : Int) + (dj : Nat)) = true := by
  simp only [erodeI, List.all_eq_true, List.mem_range]

/-- two erosions agree when the masks agree position by position over the two rectangles -/
theorem erodeI_congr_pos (kh kw : Nat) (K L : Int → Int → Bool) (i j i' j' : Int)
    (h : ∀ di, di < kh + 2 → ∀ dj, dj < kw + 2 →
      K (i - (((kh + 2) / 2 : Nat) : Int) + (di : Nat)) (j - (((kw + 2) / 2 : Nat) : Int) + (dj : Nat)) =
        L (i' - (((kh + 2) / 2 : Nat) : Int) + (di : Nat)) (j' - (((kw + 2) / 2 : Nat) : Int) + (dj : Nat))) :
    erodeI kh kw K i j = erodeI kh kw L i' j' :=
  all_congr_mem _ _ _ fun di hdi => all_congr_mem _ _ _ fun dj hdj =>
    h di (List.mem_range.1 hdi) dj (List.mem_range.1 hdj)

/-- the eroded mask reads the mask only within `k / 2 + 1` of the pixel -/
theorem erodeI_congr (kh kw : Nat) (K L : Int → Int → Bool) (i j : Int)
    (h : ∀ a b : Int, i - (((kh / 2 : Nat) : Int) + 1) ≤ a ∧ a ≤ i + (((kh / 2 : Nat) : Int) + 1) →
      j - (((kw / 2 : Nat) : Int) + 1) ≤ b ∧ b ≤ j + (((kw / 2 : Nat) : Int) + 1) → K a b = L a b) :
    erodeI kh kw K i j = erodeI kh kw L i j :=
  erodeI_congr_pos kh kw K L i j i j fun di hdi dj hdj => h _ _ (by omega) (by omega)

/-- `erodeAt` is the erosion of the mask extended by `false` outside the block -/
theorem erodeAt_eq_erodeI (kh kw h w : Nat) (m : Nat → Nat → Bool) (r c : Nat) :
    erodeAt kh kw h w m r c = erodeI kh kw (fun i j => decide (0 ≤ i) && decide (i < h) && decide (0 ≤ j) &&
      decide (j < w) && m i.toNat j.toNat) r c := rfl

/-- the rectangle contains its anchor -/
theorem erodeI_self (kh kw : Nat) (K : Int → Int → Bool) (i j : Int) (h : erodeI kh kw K i j = true) : K i j = true := by
  have := (erodeI_iff kh kw K i j).1 h ((kh + 2) / 2) (by omega) ((kw + 2) / 2) (by omega)
  rwa [Int.sub_add_cancel, Int.sub_add_cancel] at this

/-- the first and the last corner of the rectangle -/
theorem erodeI_corners (kh kw : Nat) (K : Int → Int → Bool) (i j : Int) (h : erodeI kh kw K i j = true) :
    K (i - (((kh + 2) / 2 : Nat) : Int)) (j - (((kw + 2) / 2 : Nat) : Int)) = true ∧
      K (i - (((kh + 2) / 2 : Nat) : Int) + ((kh + 1 : Nat) : Int)) (j - (((kw + 2) / 2 : Nat) : Int) + ((kw + 1 : Nat) : Int)) = true := by
  have h0 := (erodeI_iff kh kw K i j).1 h 0 (by omega) 0 (by omega)
  have h1 := (erodeI_iff kh kw K i j).1 h (kh + 1) (by omega) (kw + 1) (by omega)
  rw [show ((0 : Nat) : Int) = 0 from rfl, Int.add_zero, Int.add_zero] at h0
  exact ⟨h0, h1⟩

end Homonim
