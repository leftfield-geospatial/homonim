/-
  Source-grid processing (`correctedSrcGrid`, `partialValidSrcGrid`, and the same on what a block read).

  The model writes the pipeline out three times; here it is one function of the source image `A` and the reference image `F`
  that were read (`paramsSrcOf`, `keepInSrcOf`), and a block differs from the whole run only in `A` and `F`.  A block is
  transparent when the reference as seen on the source grid agrees on the kernel window: `average` and `nearest` read
  only reference pixels that meet the source pixel, which the expanded window holds; `bilinear` can reach one further, and
  agrees only while a reference pixel is at most three source pixels long.
-/
import Homonim.Lemmas.ImageFit
import Homonim.Props.C06

namespace Homonim

/-! ### the pipeline as a function of the two images it reads -/

/-- parameters of the source-grid pipeline on a source image `A` and a reference image `F` (on its own grid) -/
abbrev ImagePair.paramsSrcOf (p : ImagePair) (model : Model) (kh kw : Nat) (n0 n1 : Rat) (m : Resampling) (A F : ImgO) :
    Int → Int → Option Params :=
  imgParams p.Sr.n p.Sc.n A (fun i j => resample2 m p.Rr p.Rc p.Sr p.Sc F i j) model kh kw n0 n1

/-- its un-eroded partial mask: every reference pixel meeting the source pixel valid, and parameters fitted -/
def ImagePair.keepInSrcOf (p : ImagePair) (model : Model) (kh kw : Nat) (n0 n1 : Rat) (m : Resampling) (A F : ImgO)
    (a b : Int) : Bool :=
  F.allValid (refUnder p.Sr p.Rr a) (refUnder p.Sc p.Rc b) && (p.paramsSrcOf model kh kw n0 n1 m A F a b).isSome

theorem ImagePair.correctedSrcGrid_eq (p : ImagePair) (model : Model) (kh kw : Nat) (n0 n1 : Rat) (m : Resampling)
    (r c : Int) :
    p.correctedSrcGrid model kh kw n0 n1 m r c =
      correctedPxSrcGrid (p.src r c) (p.paramsSrcOf model kh kw n0 n1 m p.src p.refRead r c) := by
  unfold ImagePair.correctedSrcGrid ImagePair.paramsSrcOf imgParams correctedPxSrcGrid
  split
  · rfl
  · cases p.src r c <;> rfl

theorem ImagePair.correctedSrcGridOn_eq (p : ImagePair) (model : Model) (kh kw : Nat) (n0 n1 : Rat) (m : Resampling)
    (sinR sinC rinR rinC : Win1) (r c : Int) :
    p.correctedSrcGridOn model kh kw n0 n1 m sinR sinC rinR rinC r c =
      correctedPxSrcGrid ((p.src.restrict sinR sinC) r c)
        (p.paramsSrcOf model kh kw n0 n1 m (p.src.restrict sinR sinC) (p.ref.restrict rinR rinC) r c) := by
  unfold ImagePair.correctedSrcGridOn ImagePair.paramsSrcOf imgParams correctedPxSrcGrid
  split
  · rfl
  · cases (p.src.restrict sinR sinC) r c <;> rfl

theorem ImagePair.partialValidSrcGrid_eq (p : ImagePair) (model : Model) (kh kw : Nat) (n0 n1 : Rat) (m : Resampling)
    (r c : Int) :
    p.partialValidSrcGrid model kh kw n0 n1 m r c =
      ((p.src r c).isSome && erodeI kh kw (p.keepInSrcOf model kh kw n0 n1 m p.src p.refRead) r c) := rfl

theorem ImagePair.partialValidSrcGridOn_eq (p : ImagePair) (model : Model) (kh kw : Nat) (n0 n1 : Rat) (m : Resampling)
    (sinR sinC rinR rinC : Win1) (r c : Int) :
    p.partialValidSrcGridOn model kh kw n0 n1 m sinR sinC rinR rinC r c =
      (((p.src.restrict sinR sinC) r c).isSome &&
        erodeI kh kw (p.keepInSrcOf model kh kw n0 n1 m (p.src.restrict sinR sinC) (p.ref.restrict rinR rinC)) r c) := rfl

/-- no pixel outside the source image is kept -/
theorem keepInSrcOf_false_outside (p : ImagePair) (model : Model) (kh kw : Nat) (n0 n1 : Rat) (m : Resampling)
    (A F : ImgO) (a b : Int) (h : ¬ (0 ≤ a ∧ a < p.Sr.n ∧ 0 ≤ b ∧ b < p.Sc.n)) :
    p.keepInSrcOf model kh kw n0 n1 m A F a b = false := by
  unfold ImagePair.keepInSrcOf ImagePair.paramsSrcOf imgParams
  rw [if_neg h, Option.isSome_none, Bool.and_false]

/-! ### the windows of a source-grid block -/

theorem ImagePair.blockRowsSrc_covers (p : ImagePair) (sr vr ρ : Int) (hρ : 0 ≤ ρ) (hv : ρ ≤ vr) (kr : Nat) :
    Covers (srcWin p.Sr p.Rr) (p.blockRowsSrc sr vr kr).pin (p.blockRowsSrc sr vr kr).pout ρ :=
  block_covers _ _ sr vr ρ hρ hv kr

theorem ImagePair.blockColsSrc_covers (p : ImagePair) (sc vc ρ : Int) (hρ : 0 ≤ ρ) (hv : ρ ≤ vc) (kc : Nat) :
    Covers (srcWin p.Sc p.Rc) (p.blockColsSrc sc vc kc).pin (p.blockColsSrc sc vc kc).pout ρ :=
  block_covers _ _ sc vc ρ hρ hv kc

/-! ### `average` / `nearest` of a restricted reference -/

/-- at a source pixel of the window `(wr, wc)`, `average` and `nearest` read the reference only inside the expanded
    window: restricting the reference to it changes nothing.  (Not so for `bilinear`: its 2 x 2 support can reach a
    reference pixel that does not meet the source pixel.) -/
theorem resample2_restrict_expand (m : Resampling) (hm : m ≠ .bilinear) (Sr Sc Rr Rc : Axis)
    (hSr : 0 < Sr.p) (hSc : 0 < Sc.p) (hRr : 0 < Rr.p) (hRc : 0 < Rc.p) (ref : ImgO) (wr wc : Win1) (jr jc : Int)
    (hjr : wr.lo ≤ jr ∧ jr < wr.hi) (hjc : wc.lo ≤ jc ∧ jc < wc.hi) :
    resample2 m Rr Rc Sr Sc (ref.restrict (expandTo Sr Rr wr) (expandTo Sc Rc wc)) jr jc =
      resample2 m Rr Rc Sr Sc ref jr jc := by
  cases m with
  | bilinear => exact absurd rfl hm
  | average =>
    refine avg2_congr _ _ _ _ _ _ jr jc fun iw hiw kv hkv => ?_
    obtain ⟨_, ⟨r1, r2⟩, _⟩ := mem_avgWeights1 _ _ _ _ hiw
    obtain ⟨_, ⟨c1, c2⟩, _⟩ := mem_avgWeights1 _ _ _ _ hkv
    exact ref.restrict_of_mem (overlap_in_expand Rr Sr hRr hSr wr jr hjr iw.1 r1 r2)
      (overlap_in_expand Rc Sc hRc hSc wc jc hjc kv.1 c1 c2)
  | nearest =>
    exact ref.restrict_of_mem (nearest_in_expand Rr Sr hRr hSr wr jr hjr) (nearest_in_expand Rc Sc hRc hSc wc jc hjc)

/-- the reference pixels that meet a source pixel of the window lie in the expansion of the window -/
theorem refUnder_subset_expand (S R : Axis) (hS : 0 < S.p) (hR : 0 < R.p) (w : Win1) (a : Int)
    (ha : w.lo ≤ a ∧ a < w.hi) (x : Int) (hx : (refUnder S R a).lo ≤ x ∧ x < (refUnder S R a).hi) :
    (expandTo S R w).lo ≤ x ∧ x < (expandTo S R w).hi :=
  expand_subset_expand S R hS hR w ⟨a, a + 1⟩ ⟨ha.1, ha.2⟩ x hx

/-! ### `bilinear` of a restricted reference -/

/-- 1-D: for a source pixel `a` of the window `w ⊆ W` that is one pixel away from every edge of `w` that is not an edge of
    `W`, each pixel of the bilinear support either has weight 0 or is in the expansion of `w` iff it is in that of `W` -
    provided a reference pixel is at most three source pixels long (the far pixel of the support lies within half a reference
    pixel plus half a source pixel of the edges of `a`) -/
theorem bilin_support_restrict (S R : Axis) (hS : 0 < S.p) (hR : 0 < R.p) (hratio : R.p ≤ 3 * S.p) (w W : Win1)
    (hsub : W.lo ≤ w.lo ∧ w.hi ≤ W.hi) (a : Int) (ha : w.lo ≤ a ∧ a < w.hi)
    (hlo : w.lo + 1 ≤ a ∨ w.lo = W.lo) (hhi : a + 1 < w.hi ∨ w.hi = W.hi) :
    ∀ iw ∈ bilinWeights1 R S a, iw.2 = 0 ∨
      (((expandTo S R w).lo ≤ iw.1 ∧ iw.1 < (expandTo S R w).hi) ↔
        ((expandTo S R W).lo ≤ iw.1 ∧ iw.1 < (expandTo S R W).hi)) := by
  intro iw hiw
  obtain ⟨b1, b2⟩ := bilinIdx_spec R S hR a
  rw [bilinWeights1_eq] at hiw
  simp only [List.mem_cons, List.not_mem_nil, or_false] at hiw
  rw [mem_expandTo_iff S R hR, mem_expandTo_iff S R hR]
  have m1 := Axis.edge_le_edge hS hsub.1
  have m2 := Axis.edge_le_edge hS hsub.2
  have m3 := Axis.edge_le_edge hS ha.1
  have m4 := Axis.edge_le_edge hS (show a + 1 ≤ w.hi by omega)
  have m5 : w.lo + 1 ≤ a → S.edge w.lo + S.p ≤ S.edge a := fun h => S.edge_succ _ ▸ Axis.edge_le_edge hS h
  have m6 : a + 1 < w.hi → S.edge (a + 1) + S.p ≤ S.edge w.hi := fun h =>
    S.edge_succ _ ▸ Axis.edge_le_edge hS (show a + 1 + 1 ≤ w.hi by omega)
  rw [S.edge_succ] at m4 m6
  have e1 := R.edge_succ (bilinIdx R S a)
  have e2 := R.edge_succ (bilinIdx R S a + 1)
  rcases hiw with rfl | rfl <;> dsimp only
  · right
    rcases hlo with h | h
    · have := m5 h
      omega
    · rw [h] at m3 ⊢
      omega
  · by_cases ht : 2 * S.edge a + S.p - (2 * R.edge (bilinIdx R S a) + R.p) = 0
    · exact Or.inl ht
    · right
      rcases hhi with h | h
      · have := m6 h
        omega
      · rw [h] at m4 ⊢
        omega

/-- the weighted mean over a separable support does not see the image where the weight is 0 -/
theorem wmean_supp_congr_of_weight (rows cols : List (Int × Int)) (f g : ImgO)
    (h : ∀ iw ∈ rows, ∀ kv ∈ cols, f iw.1 kv.1 = g iw.1 kv.1 ∨ iw.2 * kv.2 = 0) :
    wmean (supp mulZ rows cols f) = wmean (supp mulZ rows cols g) := by
  have key : ∀ φ : Rat × Rat → Rat, (∀ x, φ (0, x) = 0) →
      ((supp mulZ rows cols f).map φ).sum = ((supp mulZ rows cols g).map φ).sum := by
    intro φ hφ
    unfold supp
    induction rows with
    | nil => rfl
    | cons iw rows ih =>
      rw [List.flatMap_cons, List.flatMap_cons, List.map_append, List.map_append, List.sum_append, List.sum_append,
        ih fun iw' hiw' => h iw' (List.mem_cons_of_mem _ hiw')]
      congr 1
      have hrow := h iw List.mem_cons_self
      clear h ih
      induction cols with
      | nil => rfl
      | cons kv cols ihc =>
        have hc := ihc fun kv' hkv' => hrow kv' (List.mem_cons_of_mem _ hkv')
        rcases hrow kv List.mem_cons_self with e | e
        · rw [List.filterMap_cons, List.filterMap_cons, e]
          cases g iw.1 kv.1 <;> simp only [Option.map_none, Option.map_some, List.map_cons, List.sum_cons, hc]
        · rw [List.filterMap_cons, List.filterMap_cons]
          cases f iw.1 kv.1 <;> cases g iw.1 kv.1 <;>
            simp only [Option.map_none, Option.map_some, List.map_cons, List.sum_cons, hc, mulZ, e, Int.cast_zero, hφ,
              zero_add]
  unfold wmean
  rw [key (fun p => p.1 * p.2) (fun x => zero_mul x), key (fun p => p.1) (fun _ => rfl)]

/-- at a source pixel of the window `(wr, wc) ⊆ (Wr, Wc)` that is one pixel away from the window's inner edges, `bilinear`
    gives the same on the reference restricted to the expansion of either window, provided a reference pixel is at most
    3 source pixels long along each axis -/
theorem bilinear2_restrict_agree (Sr Sc Rr Rc : Axis) (hSr : 0 < Sr.p) (hSc : 0 < Sc.p) (hRr : 0 < Rr.p) (hRc : 0 < Rc.p)
    (hratr : Rr.p ≤ 3 * Sr.p) (hratc : Rc.p ≤ 3 * Sc.p) (ref : ImgO) (wr wc Wr Wc : Win1)
    (hsubr : Wr.lo ≤ wr.lo ∧ wr.hi ≤ Wr.hi) (hsubc : Wc.lo ≤ wc.lo ∧ wc.hi ≤ Wc.hi) (jr jc : Int)
    (hjr : wr.lo ≤ jr ∧ jr < wr.hi) (hjc : wc.lo ≤ jc ∧ jc < wc.hi)
    (hlor : wr.lo + 1 ≤ jr ∨ wr.lo = Wr.lo) (hhir : jr + 1 < wr.hi ∨ wr.hi = Wr.hi)
    (hloc : wc.lo + 1 ≤ jc ∨ wc.lo = Wc.lo) (hhic : jc + 1 < wc.hi ∨ wc.hi = Wc.hi) :
    bilinear2 Rr Rc Sr Sc (ref.restrict (expandTo Sr Rr wr) (expandTo Sc Rc wc)) jr jc =
      bilinear2 Rr Rc Sr Sc (ref.restrict (expandTo Sr Rr Wr) (expandTo Sc Rc Wc)) jr jc := by
  have n1 : (ref.restrict (expandTo Sr Rr wr) (expandTo Sc Rc wc)) (nearestIdx Rr Sr jr) (nearestIdx Rc Sc jc) = ref _ _ :=
    resample2_restrict_expand .nearest (by decide) Sr Sc Rr Rc hSr hSc hRr hRc ref wr wc jr jc hjr hjc
  have n2 : (ref.restrict (expandTo Sr Rr Wr) (expandTo Sc Rc Wc)) (nearestIdx Rr Sr jr) (nearestIdx Rc Sc jc) = ref _ _ :=
    resample2_restrict_expand .nearest (by decide) Sr Sc Rr Rc hSr hSc hRr hRc ref Wr Wc jr jc
      ⟨by omega, by omega⟩ ⟨by omega, by omega⟩
  rw [bilinear2_eq, bilinear2_eq, n1, n2]
  cases ref (nearestIdx Rr Sr jr) (nearestIdx Rc Sc jc) with
  | none => rfl
  | some v =>
    refine wmean_supp_congr_of_weight _ _ _ _ fun iw hiw kv hkv => ?_
    rcases bilin_support_restrict Sr Rr hSr hRr hratr wr Wr hsubr jr hjr hlor hhir iw hiw with h0 | hr
    · exact Or.inr (by rw [h0, Int.zero_mul])
    rcases bilin_support_restrict Sc Rc hSc hRc hratc wc Wc hsubc jc hjc hloc hhic kv hkv with h0 | hc
    · exact Or.inr (by rw [h0, Int.mul_zero])
    left
    unfold ImgO.restrict
    by_cases hcond : (expandTo Sr Rr wr).lo ≤ iw.1 ∧ iw.1 < (expandTo Sr Rr wr).hi ∧
        (expandTo Sc Rc wc).lo ≤ kv.1 ∧ kv.1 < (expandTo Sc Rc wc).hi
    · rw [if_pos hcond, if_pos ⟨(hr.1 ⟨hcond.1, hcond.2.1⟩).1, (hr.1 ⟨hcond.1, hcond.2.1⟩).2,
        (hc.1 ⟨hcond.2.2.1, hcond.2.2.2⟩).1, (hc.1 ⟨hcond.2.2.1, hcond.2.2.2⟩).2⟩]
    · rw [if_neg hcond, if_neg fun ⟨a1, a2, a3, a4⟩ =>
        hcond ⟨(hr.2 ⟨a1, a2⟩).1, (hr.2 ⟨a1, a2⟩).2, (hc.2 ⟨a3, a4⟩).1, (hc.2 ⟨a3, a4⟩).2⟩]

/-- the kernel window of a pixel of the output window stays at least one pixel away from those edges of the input window
    that are not edges of the processing window -/
theorem kernel_window_strictly_inside (A B s v : Int) (k : Nat) (hk : ((k / 2 : Nat) : Int) + 1 ≤ v) (j : Nat)
    (p : Int) (hp : (procOut A B s v j).lo ≤ p ∧ p < (procOut A B s v j).hi)
    (i : Int) (hi : p - ((k / 2 : Nat) : Int) ≤ i ∧ i ≤ p + ((k / 2 : Nat) : Int)) :
    ((procIn A B s v j).lo + 1 ≤ i ∨ (procIn A B s v j).lo = A) ∧
      (i + 1 < (procIn A B s v j).hi ∨ (procIn A B s v j).hi = B) := by
  rw [in_contains_out_plus_overlap_eq A B s v (by omega) j]
  dsimp only
  omega

/-! ### a block against the whole run -/

/-- the parameters a block fits at a source pixel are those of the whole run when the block read the kernel window of the
    pixel (clipped to the image) and sees the reference there as the whole run does -/
theorem block_paramsSrc_agree (p : ImagePair) (hSr : 0 < p.Sr.p) (hSc : 0 < p.Sc.p) (hRr : 0 < p.Rr.p) (hRc : 0 < p.Rc.p)
    (model : Model) (kh kw : Nat) (n0 n1 : Rat) (m : Resampling) (pinR pinC : Win1) (i j : Int)
    (H : ∀ a b : Int, 0 ≤ a ∧ a < p.Sr.n → 0 ≤ b ∧ b < p.Sc.n →
      i - ((kh / 2 : Nat) : Int) ≤ a ∧ a ≤ i + ((kh / 2 : Nat) : Int) →
      j - ((kw / 2 : Nat) : Int) ≤ b ∧ b ≤ j + ((kw / 2 : Nat) : Int) →
      ((pinR.lo ≤ a ∧ a < pinR.hi) ∧ (pinC.lo ≤ b ∧ b < pinC.hi)) ∧
        resample2 m p.Rr p.Rc p.Sr p.Sc (p.ref.restrict (expandTo p.Sr p.Rr pinR) (expandTo p.Sc p.Rc pinC)) a b =
          resample2 m p.Rr p.Rc p.Sr p.Sc p.refRead a b) :
    p.paramsSrcOf model kh kw n0 n1 m (p.src.restrict pinR pinC)
        (p.ref.restrict (expandTo p.Sr p.Rr pinR) (expandTo p.Sc p.Rc pinC)) i j =
      p.paramsSrcOf model kh kw n0 n1 m p.src p.refRead i j :=
  imgParams_congr _ _ _ _ _ _ model kh kw n0 n1 i j fun a b ha hb hka hkb =>
    ⟨p.src.restrict_of_mem (H a b ha hb hka hkb).1.1 (H a b ha hb hka hkb).1.2, fun _ => (H a b ha hb hka hkb).2⟩

/-- a block of a source-grid run computes the whole run's value at the pixels of its output window, provided it sees the
    reference on the kernel windows of those pixels as the whole run does -/
theorem block_transparent_src_core (p : ImagePair) (hSr : 0 < p.Sr.p) (hSc : 0 < p.Sc.p) (hRr : 0 < p.Rr.p)
    (hRc : 0 < p.Rc.p) (model : Model) (kh kw : Nat) (n0 n1 : Rat) (m : Resampling)
    (sr sc vr vc : Int) (hvr : ((kh / 2 : Nat) : Int) + 1 ≤ vr) (hvc : ((kw / 2 : Nat) : Int) + 1 ≤ vc) (kr kc : Nat)
    (r c : Int) (hr : (p.blockRowsSrc sr vr kr).pout.lo ≤ r ∧ r < (p.blockRowsSrc sr vr kr).pout.hi)
    (hc : (p.blockColsSrc sc vc kc).pout.lo ≤ c ∧ c < (p.blockColsSrc sc vc kc).pout.hi)
    (href : ∀ a b : Int, (p.blockRowsSrc sr vr kr).pin.lo ≤ a ∧ a < (p.blockRowsSrc sr vr kr).pin.hi →
      (p.blockColsSrc sc vc kc).pin.lo ≤ b ∧ b < (p.blockColsSrc sc vc kc).pin.hi →
      r - ((kh / 2 : Nat) : Int) ≤ a ∧ a ≤ r + ((kh / 2 : Nat) : Int) →
      c - ((kw / 2 : Nat) : Int) ≤ b ∧ b ≤ c + ((kw / 2 : Nat) : Int) →
      resample2 m p.Rr p.Rc p.Sr p.Sc (p.ref.restrict (p.blockRowsSrc sr vr kr).oin (p.blockColsSrc sc vc kc).oin) a b =
        resample2 m p.Rr p.Rc p.Sr p.Sc p.refRead a b) :
    p.correctedSrcGridByBlock model kh kw n0 n1 m sr sc vr vc kr kc r c = p.correctedSrcGrid model kh kw n0 n1 m r c := by
  have cr := p.blockRowsSrc_covers sr vr _ (by omega) hvr kr
  have cc := p.blockColsSrc_covers sc vc _ (by omega) hvc kc
  have sa := srcWin_covers_src p.Sr p.Rr hSr hRr
  have sb := srcWin_covers_src p.Sc p.Rc hSc hRc
  rw [ImagePair.correctedSrcGrid_eq]
  refine (p.correctedSrcGridOn_eq ..).trans (congrArg₂ correctedPxSrcGrid
    (p.src.restrict_of_mem (by have := cr.out_sub; omega) (by have := cc.out_sub; omega)) ?_)
  refine block_paramsSrc_agree p hSr hSc hRr hRc model kh kw n0 n1 m _ _ r c fun a b ha hb hka hkb => ?_
  have ain := cr.near a (by omega) (by omega)
  have bin := cc.near b (by omega) (by omega)
  exact ⟨⟨ain, bin⟩, href a b ain bin hka hkb⟩

/-- gain model, positive source, `average` / `nearest`: at a source pixel of the window `(wr, wc)` inside the image, the
    un-eroded mask computed from the source and the reference restricted to the window and its expansion is the one computed
    from the unrestricted images: the coverage test and the two validity tests read nothing else -/
theorem keepInSrcOf_restrict (p : ImagePair) (hSr : 0 < p.Sr.p) (hSc : 0 < p.Sc.p) (hRr : 0 < p.Rr.p) (hRc : 0 < p.Rc.p)
    (hposS : ∀ r c x, p.src r c = some x → 0 < x) (kh kw : Nat) (n0 n1 : Rat) (m : Resampling) (hm : m ≠ .bilinear)
    (A : ImgO) (hA : ∀ r c x, A r c = some x → 0 < x) (wr wc : Win1) (a b : Int)
    (hin : 0 ≤ a ∧ a < p.Sr.n ∧ 0 ≤ b ∧ b < p.Sc.n) (ha : wr.lo ≤ a ∧ a < wr.hi) (hb : wc.lo ≤ b ∧ b < wc.hi)
    (hAp : A a b = p.src a b) :
    p.keepInSrcOf .gain kh kw n0 n1 m A (p.ref.restrict (expandTo p.Sr p.Rr wr) (expandTo p.Sc p.Rc wc)) a b =
      (p.ref.allValid (refUnder p.Sr p.Rr a) (refUnder p.Sc p.Rc b) &&
        (p.paramsSrcOf .gain kh kw n0 n1 m p.src p.ref a b).isSome) := by
  unfold ImagePair.keepInSrcOf ImagePair.paramsSrcOf
  congr 1
  · exact ImgO.allValid_congr _ _ _ _ fun x y hx hy => p.ref.restrict_of_mem
      (refUnder_subset_expand p.Sr p.Rr hSr hRr wr a ha x hx) (refUnder_subset_expand p.Sc p.Rc hSc hRc wc b hb y hy)
  · by_cases hk : kh = 0 ∨ kw = 0
    · rw [imgParams_none_of_empty_kernel _ _ _ _ .gain kh kw hk, imgParams_none_of_empty_kernel _ _ _ _ .gain kh kw hk]
    · rw [imgParams_gain_isSome _ _ _ _ hA kh kw (by omega) (by omega) n0 n1 a b hin,
        imgParams_gain_isSome _ _ _ _ hposS kh kw (by omega) (by omega) n0 n1 a b hin, hAp,
        resample2_restrict_expand m hm p.Sr p.Sc p.Rr p.Rc hSr hSc hRr hRc p.ref wr wc a b ha hb]

end Homonim
