/-
  Partial masking on the reference grid (`ImagePair.partialValid`, and the same on what a block read).

  The mask is the source mask and an erosion of `keepIn` = "completely covered by valid source pixels, and carrying
  parameters".  The coverage test of a reference pixel of the block's input window reads only source pixels the block read;
  *whether* a pixel carries parameters is the same for block and whole run as soon as the fit never degenerates
  (`FitTotal`) - the parameter values near the edge of the input window differ, but partial masking does not look at them.
-/
import Homonim.Lemmas.RefGrid

namespace Homonim

/-! ### the coverage test -/

/-- inside the block's reference window the coverage test sees the source unrestricted -/
theorem coverRef_restrict (p : ImagePair) (hSr : 0 < p.Sr.p) (hSc : 0 < p.Sc.p) (hRr : 0 < p.Rr.p)
    (hRc : 0 < p.Rc.p) (pinR pinC : Win1) (a b : Int) (ha : pinR.lo ≤ a ∧ a < pinR.hi)
    (hb : pinC.lo ≤ b ∧ b < pinC.hi) :
    (p.restrictTo pinR pinC).coverRef a b = p.coverRef a b :=
  ImgO.allValid_congr _ _ _ _ fun x y hx hy => p.src.restrict_of_mem
    (expand_subset_expand p.Rr p.Sr hRr hSr pinR ⟨a, a + 1⟩ ⟨ha.1, ha.2⟩ x hx)
    (expand_subset_expand p.Rc p.Sc hRc hSc pinC ⟨b, b + 1⟩ ⟨hb.1, hb.2⟩ y hy)

/-! ### the un-eroded mask -/

/-- the fit succeeds at every jointly valid pixel of the reference image (no division by zero) -/
def ImagePair.FitTotal (q : ImagePair) (model : Model) (kh kw : Nat) (n0 n1 : Rat) : Prop :=
  ∀ i j : Int, 0 ≤ i ∧ i < q.Rr.n → 0 ≤ j ∧ j < q.Rc.n → (q.srcDs i j).isSome = true → (q.ref i j).isSome = true →
    (q.params model kh kw n0 n1 i j).isSome = true

theorem ImagePair.FitTotal.isSome_iff {q : ImagePair} {model : Model} {kh kw : Nat} {n0 n1 : Rat}
    (h : q.FitTotal model kh kw n0 n1) (i j : Int) :
    (q.params model kh kw n0 n1 i j).isSome = true ↔
      (0 ≤ i ∧ i < q.Rr.n ∧ 0 ≤ j ∧ j < q.Rc.n) ∧ (q.srcDs i j).isSome = true ∧ (q.ref i j).isSome = true :=
  ⟨imgParams_isSome_imp, fun ⟨hin, hs, hr⟩ => h i j ⟨hin.1, hin.2.1⟩ ⟨hin.2.2.1, hin.2.2.2⟩ hs hr⟩

/-- `keepIn` agrees at every reference pixel that is inside the block's reference window whenever it is inside the
    processing window, provided the fit is total for the pair and for the pair as the block sees it -/
theorem keepIn_restrict (p : ImagePair) (hSr : 0 < p.Sr.p) (hSc : 0 < p.Sc.p) (hRr : 0 < p.Rr.p)
    (hRc : 0 < p.Rc.p) (pinR pinC : Win1) (model : Model) (kh kw : Nat) (n0 n1 : Rat)
    (hfp : p.FitTotal model kh kw n0 n1) (hfq : (p.restrictTo pinR pinC).FitTotal model kh kw n0 n1) (a b : Int)
    (hR : ((refWin p.Sr p.Rr).lo ≤ a ∧ a < (refWin p.Sr p.Rr).hi) → (pinR.lo ≤ a ∧ a < pinR.hi))
    (hC : ((refWin p.Sc p.Rc).lo ≤ b ∧ b < (refWin p.Sc p.Rc).hi) → (pinC.lo ≤ b ∧ b < pinC.hi)) :
    (p.restrictTo pinR pinC).keepIn model kh kw n0 n1 a b = p.keepIn model kh kw n0 n1 a b := by
  have hs := (restrict_point_agree p hSr hSc hRr hRc pinR pinC a b (fun ra rb => ⟨hR ra, hC rb⟩)).1
  unfold ImagePair.keepIn
  by_cases hab : ((refWin p.Sr p.Rr).lo ≤ a ∧ a < (refWin p.Sr p.Rr).hi) ∧
      ((refWin p.Sc p.Rc).lo ≤ b ∧ b < (refWin p.Sc p.Rc).hi)
  · have href : (p.restrictTo pinR pinC).ref a b = p.ref a b := p.ref.restrict_of_mem (hR hab.1) (hC hab.2)
    rw [coverRef_restrict p hSr hSc hRr hRc pinR pinC a b (hR hab.1) (hC hab.2),
      Bool.eq_iff_iff.2 ((hfq.isSome_iff a b).trans (by rw [hs, href]; exact (hfp.isSome_iff a b).symm))]
  · have h1 := srcDs_none_outside p hSr hSc hRr hRc a b hab
    rw [ImagePair.params_eq, ImagePair.params_eq, imgParams_none_of_none model kh kw n0 n1 h1,
      imgParams_none_of_none model kh kw n0 n1 (hs.trans h1)]
    simp

/-! ### abstract windows -/

/-- block invariance of partial masking for abstract windows: along each axis `pin` covers `pout` up to the reach of the
    erosion, and the reference pixel under the centre of the source pixel lies in `pout` -/
theorem partial_mask_core (p : ImagePair) (hSr : 0 < p.Sr.p) (hSc : 0 < p.Sc.p) (hRr : 0 < p.Rr.p)
    (hRc : 0 < p.Rc.p) (model : Model) (kh kw : Nat) (n0 n1 : Rat) (pinR poutR pinC poutC : Win1)
    (hfp : p.FitTotal model kh kw n0 n1) (hfq : (p.restrictTo pinR pinC).FitTotal model kh kw n0 n1)
    (hR : Covers (refWin p.Sr p.Rr) pinR poutR (((kh / 2 : Nat) : Int) + 1))
    (hC : Covers (refWin p.Sc p.Rc) pinC poutC (((kw / 2 : Nat) : Int) + 1))
    (r c : Int) (hr : (roundTo p.Rr p.Sr poutR).lo ≤ r ∧ r < (roundTo p.Rr p.Sr poutR).hi)
    (hc : (roundTo p.Rc p.Sc poutC).lo ≤ c ∧ c < (roundTo p.Rc p.Sc poutC).hi)
    (hnr : poutR.lo ≤ nearestIdx p.Rr p.Sr r ∧ nearestIdx p.Rr p.Sr r < poutR.hi)
    (hnc : poutC.lo ≤ nearestIdx p.Rc p.Sc c ∧ nearestIdx p.Rc p.Sc c < poutC.hi) :
    (p.restrictTo pinR pinC).partialValid model kh kw n0 n1 r c = p.partialValid model kh kw n0 n1 r c := by
  have hsrc : (p.restrictTo pinR pinC).src r c = p.src r c :=
    p.src.restrict_of_mem (round_subset_expand p.Rr p.Sr hRr hSr pinR poutR hR.out_sub r hr)
      (round_subset_expand p.Rc p.Sc hRc hSc pinC poutC hC.out_sub c hc)
  have hke : (p.restrictTo pinR pinC).keepEroded model kh kw n0 n1 (nearestIdx p.Rr p.Sr r) (nearestIdx p.Rc p.Sc c) =
      p.keepEroded model kh kw n0 n1 (nearestIdx p.Rr p.Sr r) (nearestIdx p.Rc p.Sc c) :=
    erodeI_congr kh kw _ _ _ _ fun a b ha hb =>
      keepIn_restrict p hSr hSc hRr hRc pinR pinC model kh kw n0 n1 hfp hfq a b
        (hR.near a (by omega)) (hC.near b (by omega))
  show (((p.restrictTo pinR pinC).src r c).isSome &&
      (p.restrictTo pinR pinC).keepEroded model kh kw n0 n1 (nearestIdx p.Rr p.Sr r) (nearestIdx p.Rc p.Sc c)) = _
  rw [hsrc, hke]
  rfl

/-! ### the gain model on positive data -/

theorem fitTotal_gain_of_pos (q : ImagePair) (hposS : ∀ r c x, q.src r c = some x → 0 < x) (kh kw : Nat)
    (hkh : 0 < kh) (hkw : 0 < kw) (n0 n1 : Rat) : q.FitTotal .gain kh kw n0 n1 :=
  fun i j hi hj hs href => by
    rw [params_gain_isSome q hposS kh kw hkh hkw n0 n1 i j ⟨hi.1, hi.2, hj.1, hj.2⟩, hs, href]
    rfl

/-- an empty kernel: no pixel carries parameters, so nothing survives the erosion -/
theorem keepEroded_false_of_empty_kernel (q : ImagePair) (model : Model) (kh kw : Nat) (hk : kh = 0 ∨ kw = 0)
    (n0 n1 : Rat) (i j : Int) : q.keepEroded model kh kw n0 n1 i j = false := by
  cases he : q.keepEroded model kh kw n0 n1 i j with
  | false => rfl
  | true =>
    have := erodeI_self kh kw _ i j he
    unfold ImagePair.keepIn at this
    rw [ImagePair.params_eq, imgParams_none_of_empty_kernel _ _ _ _ model kh kw hk] at this
    simp at this

/-! ### the mask against the property's definition -/

/-- a completely covered reference pixel has a valid averaged source, provided the source lookup is `none` outside the
    source image: the first source pixel position that meets it is then a pixel of the image -/
theorem srcDs_isSome_of_coverRef (p : ImagePair) (hSr : 0 < p.Sr.p) (hSc : 0 < p.Sc.p) (hRr : 0 < p.Rr.p)
    (hRc : 0 < p.Rc.p)
    (hsrc : ∀ r c, ¬ (0 ≤ r ∧ r < p.Sr.n ∧ 0 ≤ c ∧ c < p.Sc.n) → p.src r c = none)
    (a b : Int) (h : p.coverRef a b = true) : (p.srcDs a b).isSome = true := by
  obtain ⟨⟨r1, r2⟩, mr⟩ := srcUnder_lo_spec p.Sr p.Rr hSr hRr a
  obtain ⟨⟨c1, c2⟩, mc⟩ := srcUnder_lo_spec p.Sc p.Rc hSc hRc b
  have er := p.Rr.edge_succ a
  have ec := p.Rc.edge_succ b
  have hx := (ImgO.allValid_iff _ _ _).1 h _ _ mr mc
  have hin : 0 ≤ (srcUnder p.Sr p.Rr a).lo ∧ (srcUnder p.Sr p.Rr a).lo < p.Sr.n ∧
      0 ≤ (srcUnder p.Sc p.Rc b).lo ∧ (srcUnder p.Sc p.Rc b).lo < p.Sc.n := by
    by_contra hc
    rw [hsrc _ _ hc] at hx
    cases hx
  obtain ⟨wr, hwr⟩ := exists_mem_avgWeights1 p.Sr p.Rr hSr hRr a _ ⟨hin.1, hin.2.1⟩ ⟨r2, by omega⟩
  obtain ⟨wc, hwc⟩ := exists_mem_avgWeights1 p.Sc p.Rc hSc hRc b _ ⟨hin.2.2.1, hin.2.2.2⟩ ⟨c2, by omega⟩
  exact avg2_isSome p.Sr p.Sc p.Rr p.Rc p.src a b _ _ wr wc hwr hwc hx

/-- gain model, positive source, kernel at least 1 x 1: a reference pixel is kept iff it is valid in the reference and
    completely covered by valid source pixels -/
theorem keepIn_gain_eq (p : ImagePair) (hSr : 0 < p.Sr.p) (hSc : 0 < p.Sc.p) (hRr : 0 < p.Rr.p) (hRc : 0 < p.Rc.p)
    (hposS : ∀ r c x, p.src r c = some x → 0 < x)
    (hsrc : ∀ r c, ¬ (0 ≤ r ∧ r < p.Sr.n ∧ 0 ≤ c ∧ c < p.Sc.n) → p.src r c = none)
    (href : ∀ i j, ¬ (0 ≤ i ∧ i < p.Rr.n ∧ 0 ≤ j ∧ j < p.Rc.n) → p.ref i j = none)
    (kh kw : Nat) (hkh : 0 < kh) (hkw : 0 < kw) (n0 n1 : Rat) (a b : Int) :
    p.keepIn .gain kh kw n0 n1 a b = ((p.ref a b).isSome && p.coverRef a b) := by
  unfold ImagePair.keepIn
  cases hcov : p.coverRef a b with
  | false => simp
  | true =>
    have hs := srcDs_isSome_of_coverRef p hSr hSc hRr hRc hsrc a b hcov
    by_cases hin : 0 ≤ a ∧ a < p.Rr.n ∧ 0 ≤ b ∧ b < p.Rc.n
    · rw [params_gain_isSome p hposS kh kw hkh hkw n0 n1 a b hin, hs]
      simp
    · rw [href a b hin]
      unfold ImagePair.params
      rw [if_neg hin]
      rfl

/-- the eroded mask holds only strictly inside the reference image: for `k ≥ 1` the rectangle reaches at least one pixel to
    either side of its anchor and its corners carry parameters, hence lie in the image; an empty kernel keeps nothing -/
theorem keepEroded_strictly_inside (q : ImagePair) (model : Model) (kh kw : Nat) (n0 n1 : Rat) (i j : Int)
    (h : q.keepEroded model kh kw n0 n1 i j = true) : 0 < i ∧ i < q.Rr.n - 1 ∧ 0 < j ∧ j < q.Rc.n - 1 := by
  by_cases hk : kh = 0 ∨ kw = 0
  · rw [keepEroded_false_of_empty_kernel q model kh kw hk] at h
    cases h
  · obtain ⟨h0, h1⟩ := erodeI_corners kh kw _ i j h
    unfold ImagePair.keepIn at h0 h1
    rw [Bool.and_eq_true] at h0 h1
    have a0 := (imgParams_isSome_imp h0.2).1
    have a1 := (imgParams_isSome_imp h1.2).1
    push_cast at a0 a1
    omega

end Homonim
