/-
  Helper lemmas about `bandInfo` (Model/Bands.lean), the model of `MatchedPairReader._get_band_info`.
-/
import Homonim.Model.Bands
import Mathlib.Data.List.Basic

namespace Homonim
namespace BandInfo

/-! ### named pieces of `bandInfo` -/

/-- the candidate (non-alpha, non-mask) 1-based band numbers, in file order -/
def cand (bands : List BandMeta) : List Nat :=
  ((List.range bands.length).filter fun i => match bands[i]? with
    | some b => !b.alpha && !b.maskDescr | none => false).map (· + 1)

/-- the candidates that carry a wavelength tag -/
def refl (bands : List BandMeta) : List Nat :=
  (cand bands).filter fun bi => match bands[bi - 1]? with
    | some b => b.wl.isSome | none => false

/-- the default selection: the tagged candidates if there are any, else all candidates -/
def dflt (bands : List BandMeta) : List Nat :=
  if !(refl bands).isEmpty then refl bands else cand bands

/-- wavelengths after the colour-interpretation defaults -/
def step1 (bands : List BandMeta) (na : List Nat) : List (Option Rat) :=
  (List.range bands.length).map fun i =>
    match (bands.map (·.wl)).getD i none, bands[i]? with
    | some w, _ => some w
    | none, some b => if na.contains (i + 1) then stdRgb b.ci else none
    | none, none => none

/-- the final per-band wavelengths -/
def cw1 (bands : List BandMeta) (na : List Nat) : List (Option Rat) :=
  if na.length = 3 then
    if na.all fun bi => ((step1 bands na).getD (bi - 1) none).isNone then
      (List.range bands.length).map fun i =>
        match na.idxOf? (i + 1) with
        | some 0 => some (650 / 1000 : Rat)
        | some 1 => some (560 / 1000)
        | some 2 => some (480 / 1000)
        | _ => (step1 bands na).getD i none
    else step1 bands na
  else bands.map (·.wl)

theorem finish_eq (bands : List BandMeta) (na chosen : List Nat) :
    bandInfo.finish bands na chosen =
      if chosen.isEmpty then .error .noBands
      else .ok (chosen, chosen.map fun bi => (cw1 bands na).getD (bi - 1) none) := rfl

theorem bandInfo_eq (bands : List BandMeta) (sel : Option (List Nat)) :
    bandInfo bands sel =
      match sel with
      | some s =>
        if !(s.all fun b => decide (1 ≤ b) && decide (b ≤ bands.length)) then .error .invalidBand
        else if !(s.all fun b => (cand bands).contains b) then .error .alphaBand
        else bandInfo.finish bands (cand bands) (if s.isEmpty then dflt bands else s)
      | none => bandInfo.finish bands (cand bands) (dflt bands) := rfl

/-! ### candidates -/

theorem mem_cand {bands : List BandMeta} {b : Nat} :
    b ∈ cand bands ↔ 1 ≤ b ∧ ∃ m, bands[b - 1]? = some m ∧ m.alpha = false ∧ m.maskDescr = false := by
  simp only [cand, List.mem_map, List.mem_filter, List.mem_range]
  constructor
  · rintro ⟨i, ⟨hi, hc⟩, rfl⟩
    rw [Nat.add_sub_cancel, List.getElem?_eq_getElem hi] at *
    exact ⟨Nat.le_add_left 1 i, _, rfl, by simpa using hc⟩
  · rintro ⟨h1, m, hm, ha, hd⟩
    refine ⟨b - 1, ⟨(List.getElem?_eq_some_iff.1 hm).1, ?_⟩, Nat.sub_add_cancel h1⟩
    rw [hm]
    show (!m.alpha && !m.maskDescr) = true
    rw [ha, hd]; rfl

theorem cand_pairwise (bands : List BandMeta) : (cand bands).Pairwise (· < ·) :=
  (List.pairwise_lt_range.filter _).map _ fun _ _ h => Nat.add_lt_add_right h 1

theorem cand_nodup (bands : List BandMeta) : (cand bands).Nodup :=
  (cand_pairwise bands).imp (fun h => Nat.ne_of_lt h)

theorem mem_refl {bands : List BandMeta} {b : Nat} :
    b ∈ refl bands ↔ b ∈ cand bands ∧ ∃ m, bands[b - 1]? = some m ∧ m.wl.isSome = true := by
  rw [refl, List.mem_filter]
  cases bands[b - 1]? <;> simp

theorem dflt_cases (bands : List BandMeta) :
    refl bands ≠ [] ∧ dflt bands = refl bands ∨ refl bands = [] ∧ dflt bands = cand bands := by
  unfold dflt
  cases refl bands with
  | nil => exact .inr ⟨rfl, rfl⟩
  | cons a l => exact .inl ⟨List.cons_ne_nil a l, rfl⟩

theorem dflt_sublist (bands : List BandMeta) : (dflt bands).Sublist (cand bands) := by
  unfold dflt
  split
  · exact List.filter_sublist
  · exact List.Sublist.refl _

/-! ### what an accepted call returns -/

theorem finish_ok {bands : List BandMeta} {na chosen bs : List Nat} {ws : List (Option Rat)}
    (h : bandInfo.finish bands na chosen = .ok (bs, ws)) :
    bs ≠ [] ∧ bs = chosen ∧ ws = bs.map fun bi => (cw1 bands na).getD (bi - 1) none := by
  rw [finish_eq] at h
  split at h
  · cases h
  · rename_i hne
    cases h
    exact ⟨fun h0 => hne (h0 ▸ rfl), rfl, rfl⟩

theorem bandInfo_ok {bands : List BandMeta} {sel : Option (List Nat)} {bs : List Nat} {ws : List (Option Rat)}
    (h : bandInfo bands sel = .ok (bs, ws)) :
    bs ≠ [] ∧ (∀ b ∈ bs, b ∈ cand bands) ∧
    ws = bs.map (fun bi => (cw1 bands (cand bands)).getD (bi - 1) none) ∧
    match sel with
    | none => bs = dflt bands
    | some s => (∀ b ∈ s, b ∈ cand bands) ∧ (s ≠ [] → bs = s) := by
  rw [bandInfo_eq] at h
  cases sel with
  | none =>
    obtain ⟨h0, rfl, h2⟩ := finish_ok h
    exact ⟨h0, fun _ hb => (dflt_sublist bands).subset hb, h2, rfl⟩
  | some s =>
    simp only at h
    split at h
    · cases h
    · split at h
      · cases h
      · rename_i hall
        obtain ⟨h0, rfl, h2⟩ := finish_ok h
        rw [Bool.not_eq_true', Bool.not_eq_false, List.all_eq_true] at hall
        have hs : ∀ b ∈ s, b ∈ cand bands := fun b hb => List.contains_iff_mem.1 (hall b hb)
        refine ⟨h0, ?_, h2, hs, fun hne => ?_⟩
        · split
          · exact fun _ hb => (dflt_sublist bands).subset hb
          · exact hs
        · rw [if_neg (by rwa [List.isEmpty_iff])]

/-- what the `k`-th entry of an accepted result is: a candidate band and the final wavelength at its 0-based index -/
theorem bandInfo_entry {bands : List BandMeta} {sel : Option (List Nat)} {bs : List Nat} {ws : List (Option Rat)}
    (h : bandInfo bands sel = .ok (bs, ws)) {k : Nat} (hk : k < bs.length) :
    bs.getD k 0 - 1 + 1 ∈ cand bands ∧
      ws.getD k none = (cw1 bands (cand bands)).getD (bs.getD k 0 - 1) none := by
  obtain ⟨_, hsub, rfl, _⟩ := bandInfo_ok h
  have hb : bs.getD k 0 = bs[k] := by rw [List.getD_eq_getElem?_getD, List.getElem?_eq_getElem hk]; rfl
  have hc := hsub _ (List.getElem_mem hk)
  constructor
  · rw [hb, Nat.sub_add_cancel (mem_cand.1 hc).1]; exact hc
  · rw [hb, List.getD_eq_getElem?_getD, List.getElem?_map, List.getElem?_eq_getElem hk]; rfl

/-! ### the wavelengths -/

section wavelengths
variable {bands : List BandMeta} {na : List Nat} {i : Nat} {m : BandMeta}

theorem cw0_getD (hm : bands[i]? = some m) : (bands.map (·.wl)).getD i none = m.wl := by
  rw [List.getD_eq_getElem?_getD, List.getElem?_map, hm]; rfl

theorem getD_map_range {α : Type} (f : Nat → Option α) {n i : Nat} (hi : i < n) :
    ((List.range n).map f).getD i none = f i := by
  rw [List.getD_eq_getElem?_getD, List.getElem?_map, List.getElem?_range hi]; rfl

theorem step1_getD (na : List Nat) (hm : bands[i]? = some m) :
    (step1 bands na).getD i none = m.wl.or (if na.contains (i + 1) then stdRgb m.ci else none) := by
  rw [step1, getD_map_range _ (List.getElem?_eq_some_iff.1 hm).1, cw0_getD hm, hm]
  cases m.wl <;> rfl

/-- after the colour-interpretation defaults a band of `na` is still without wavelength iff it has neither tag nor
    red/green/blue colour interpretation -/
theorem step1_eq_none (hm : bands[i]? = some m) (hna : i + 1 ∈ na) :
    (step1 bands na).getD i none = none ↔ m.wl = none ∧ m.ci = .other := by
  rw [step1_getD na hm, List.contains_iff_mem.2 hna]
  cases m.wl <;> cases m.ci <;> simp [stdRgb]

theorem stdRgb_cases {c : ColorInterp} {w : Rat} (h : stdRgb c = some w) :
    w = 650 / 1000 ∨ w = 560 / 1000 ∨ w = 480 / 1000 := by
  cases c <;> cases h <;> simp

/-- no file-order assumption when some band of `na` has a wavelength after the colour-interpretation defaults -/
theorem cw1_of_informed (hm : bands[i]? = some m) {i' : Nat} (hi' : i' + 1 ∈ na)
    (hinfo : (step1 bands na).getD i' none ≠ none) :
    (cw1 bands na).getD i none = if na.length = 3 then (step1 bands na).getD i none else m.wl := by
  unfold cw1
  split
  · split
    · rename_i hall
      have := List.all_eq_true.1 hall _ hi'
      rw [Nat.add_sub_cancel, Option.isNone_iff_eq_none] at this
      exact absurd this hinfo
    · rfl
  · exact cw0_getD hm

/-- a tag is never overwritten (for a band of `na`) -/
theorem cw1_tag {w : Rat} (hm : bands[i]? = some m) (hw : m.wl = some w) (hna : i + 1 ∈ na) :
    (cw1 bands na).getD i none = some w := by
  have hs : (step1 bands na).getD i none = some w := by rw [step1_getD na hm, hw, Option.some_or]
  rw [cw1_of_informed hm hna (by rw [hs]; nofun), hs, hw, ite_self]

/-- a band with neither tag nor red/green/blue colour interpretation stays without wavelength when some band of `na`
    has one of the two -/
theorem cw1_other (hm : bands[i]? = some m) (hw : m.wl = none) (hci : m.ci = .other)
    (hinfo : ∃ i', i' + 1 ∈ na ∧ ∃ m', bands[i']? = some m' ∧ (m'.wl.isSome = true ∨ m'.ci ≠ .other)) :
    (cw1 bands na).getD i none = none := by
  obtain ⟨i', hi', m', hm', hw'⟩ := hinfo
  have hs : (step1 bands na).getD i none = none := by
    rw [step1_getD na hm, hw, hci, Option.none_or]; exact ite_self _
  rw [cw1_of_informed hm hi' fun h0 => ?_, hs, hw, ite_self]
  obtain ⟨h1, h2⟩ := (step1_eq_none hm' hi').1 h0
  rcases hw' with hw' | hw'
  · rw [h1] at hw'; cases hw'
  · exact hw' h2

/-- an untagged band gets a wavelength only through the three-band RGB defaults -/
theorem cw1_untagged {w : Rat} (hm : bands[i]? = some m) (hw : m.wl = none)
    (h : (cw1 bands na).getD i none = some w) :
    na.length = 3 ∧ (w = 650 / 1000 ∨ w = 560 / 1000 ∨ w = 480 / 1000) := by
  have hs : (step1 bands na).getD i none = some w → (w = 650 / 1000 ∨ w = 560 / 1000 ∨ w = 480 / 1000) := by
    rw [step1_getD na hm, hw, Option.none_or]
    intro h
    split at h
    · exact stdRgb_cases h
    · cases h
  unfold cw1 at h
  split at h
  · rename_i h3
    refine ⟨h3, ?_⟩
    split at h
    · rw [getD_map_range _ (List.getElem?_eq_some_iff.1 hm).1] at h
      split at h
      · cases h; exact .inl rfl
      · cases h; exact .inr (.inl rfl)
      · cases h; exact .inr (.inr rfl)
      · exact hs h
    · exact hs h
  · rw [cw0_getD hm, hw] at h; cases h

end wavelengths

end BandInfo
end Homonim
