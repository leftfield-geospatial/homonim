/-
  Scale laws of the fits: multiplying the source by `a` and the reference by `c` multiplies the six sums by
  `(1, a, c, a², c², a·c)`, and every quotient of sums the fits take is homogeneous in them (`divO_scale`), so gains
  are multiplied by `c / a`, offsets by `c`, and R² stays.
-/
import Homonim.Lemmas.Kernel
namespace Homonim

def scaleSums (a c : ℚ) (s : Sums) : Sums := ⟨s.N, a * s.S, c * s.R, a ^ 2 * s.SS, c ^ 2 * s.RR, a * c * s.SR⟩
def scaleParams (a c : ℚ) (p : Params) : Params := ⟨c / a * p.gain, c * p.offset, p.r2⟩
def Block.scale (b : Block) (a c : ℚ) : Block := { b with src := fun i j => a * b.src i j, ref := fun i j => c * b.ref i j }
def scalePts (a c : ℚ) (p : Pts) : Pts := p.map fun x => (a * x.1, c * x.2)

/-! ### the points and their sums -/

theorem winPts_scale (b : Block) (a c : ℚ) (kh kw r c' : Nat) :
    (b.scale a c).winPts kh kw r c' = scalePts a c (b.winPts kh kw r c') := by
  simp only [Block.winPts, scalePts, List.map_map]; rfl

theorem ptsSums_scale (a c : ℚ) (p : Pts) : ptsSums (scalePts a c p) = scaleSums a c (ptsSums p) := by
  simp only [ptsSums, scaleSums, scalePts, sN, sS, sR, sSS, sRR, sSR, List.map_map, Function.comp_def, Sums.mk.injEq,
    true_and]
  refine ⟨?_, ?_, ?_, ?_, ?_⟩ <;> exact sum_map_eq_mul p fun x _ => by ring

/-- normalising the scaled points with the scaled normalisation = scaling the normalised points by `(c, c)` -/
theorem normPts_scale {a c k : ℚ} (hk : k * a = c) (n0 n1 : ℚ) (p : Pts) :
    normPts (n0 * k) (n1 * c) (scalePts a c p) = scalePts c c (normPts n0 n1 p) := by
  subst hk
  simp only [normPts, scalePts, List.map_map]
  refine List.map_congr_left fun x _ => Prod.ext ?_ rfl
  simp only [Function.comp_apply]
  ring

/-! ### the fits from the sums

  `k` is the factor of the gain: `k·a = c`, that is `k = c / a`; with `c` written so, every identity below is polynomial. -/

theorem r2GainOffset_scale {a c k : ℚ} (hk : k * a = c) (hc : c ≠ 0) (s : Sums) (g o : ℚ) :
    r2GainOffset (scaleSums a c s) (k * g) (c * o) = r2GainOffset s g o := by
  subst hk
  unfold r2GainOffset
  congr 1
  exact divO_mul_cancel (pow_ne_zero 2 hc) (by simp only [scaleSums]; ring) (by simp only [scaleSums]; ring)

theorem r2Gain_scale {a c k : ℚ} (hk : k * a = c) (hc : c ≠ 0) (s : Sums) (g : ℚ) :
    r2Gain (scaleSums a c s) (k * g) = r2Gain s g := by
  rw [r2Gain_eq_r2GainOffset, r2Gain_eq_r2GainOffset, ← r2GainOffset_scale hk hc s g 0, mul_zero]

theorem fitGainS_scale {a c k : ℚ} (hk : k * a = c) (ha : a ≠ 0) (hc : c ≠ 0) (s : Sums) (fr : Bool) :
    fitGainS (scaleSums a c s) fr = (fitGainS s fr).map fun p => ⟨k * p.gain, c * p.offset, p.r2⟩ := by
  have h : divO (scaleSums a c s).R (scaleSums a c s).S = (divO s.R s.S).map (k * ·) :=
    divO_scale ha (by rw [hk]; rfl) rfl
  simp only [fitGainS, h]
  cases divO s.R s.S with
  | none => rfl
  | some g => simp only [Option.map_some, r2Gain_scale hk hc, mul_zero]

theorem olsGain_scale {a c k : ℚ} (hk : k * a = c) (ha : a ≠ 0) (s : Sums) :
    olsGain (scaleSums a c s) = (olsGain s).map (k * ·) := by
  subst hk
  exact divO_scale (pow_ne_zero 2 ha) (by simp only [scaleSums]; ring) (by simp only [scaleSums]; ring)

theorem olsOffset_scale {a c k : ℚ} (hk : k * a = c) (s : Sums) (g : ℚ) :
    olsOffset (scaleSums a c s) (k * g) = (olsOffset s g).map (c * ·) := by
  subst hk
  exact divO_scale one_ne_zero (by simp only [scaleSums]; ring) (one_mul _).symm

theorem ols_scale {a c k : ℚ} (hk : k * a = c) (ha : a ≠ 0) (s : Sums) :
    ols (scaleSums a c s) = (ols s).map fun go => (k * go.1, c * go.2) := by
  rw [ols, olsGain_scale hk ha, ols]
  cases olsGain s with
  | none => rfl
  | some g =>
    simp only [Option.map_some, Option.bind_some, olsOffset_scale hk]
    cases olsOffset s g <;> rfl

theorem keepOffset_scale {k : ℚ} (hk : 0 < k) (t g : ℚ) (q : Option ℚ) :
    keepOffset t (k * g) q = keepOffset t g q := by
  cases q with
  | none => rfl
  | some r => simp only [keepOffset, mul_pos_iff_of_pos_left hk]

theorem inpainted_scale {a c k : ℚ} (hk : k * a = c) (ha : a ≠ 0) (s : Sums) (oF : Option ℚ) (q : Option ℚ) :
    inpainted (scaleSums a c s) (oF.map (c * ·)) q =
      (inpainted s oF q).map fun p => ⟨k * p.gain, c * p.offset, p.r2⟩ := by
  cases oF with
  | none => rfl
  | some o =>
    have h : divO ((scaleSums a c s).R - (scaleSums a c s).N * (c * o)) (scaleSums a c s).S =
        (divO (s.R - s.N * o) s.S).map (k * ·) := divO_scale ha (by rw [hk]; simp only [scaleSums]; ring) rfl
    simp only [inpainted, Option.map_some, Option.bind_some, h]
    cases divO (s.R - s.N * o) s.S <;> rfl

theorem fitGainOffsetS_scale {a c k : ℚ} (hk : k * a = c) (ha : 0 < a) (hc : 0 < c) (s : Sums) (fr : Bool)
    (th : Option ℚ) (oF : Option ℚ) :
    fitGainOffsetS (scaleSums a c s) fr th (oF.map (c * ·)) =
      (fitGainOffsetS s fr th oF).map fun p => ⟨k * p.gain, c * p.offset, p.r2⟩ := by
  have hk0 : 0 < k := (mul_pos_iff_of_pos_right ha).1 (hk ▸ hc)
  have hs := ols_scale hk ha.ne' s
  cases ho : ols s with
  | none =>
    rw [ho] at hs
    cases th with
    | none => rw [fitGainOffsetS_none, fitGainOffsetS_none, hs, ho]; rfl
    | some t => rw [fitGainOffsetS_of_ols_none hs, fitGainOffsetS_of_ols_none ho, inpainted_scale hk ha.ne']
  | some go =>
    rw [ho] at hs
    cases th with
    | none =>
      rw [fitGainOffsetS_none, fitGainOffsetS_none, hs, ho]
      simp only [Option.map_some, r2GainOffset_scale hk hc.ne']
    | some t =>
      rw [fitGainOffsetS_of_ols_some hs, fitGainOffsetS_of_ols_some ho]
      simp only [r2GainOffset_scale hk hc.ne', keepOffset_scale hk0, inpainted_scale hk ha.ne']
      split <;> rfl

/-- **Fit scale law on the points**: fitting the scaled points gives the scaled parameters, for all three models -
    provided the block normalisation `(n0, n1)` becomes `(n0·c/a, n1·c)` and the in-painted offset scales by `c`. -/
theorem fitPts_scale (a c : ℚ) (ha : 0 < a) (hc : 0 < c) (model : Model) (pts : Pts) (fr : Bool) (th : Option ℚ)
    (n0 n1 : ℚ) (oF : Option ℚ) :
    fitPts model (scalePts a c pts) fr th (n0 * (c / a)) (n1 * c) (oF.map (c * ·)) =
      (fitPts model pts fr th n0 n1 oF).map (scaleParams a c) := by
  have hk : c / a * a = c := div_mul_cancel₀ c ha.ne'
  cases model with
  | gain => exact (congrArg (fitGainS · fr) (ptsSums_scale a c pts)).trans (fitGainS_scale hk ha.ne' hc.ne' _ fr)
  | gainOffset =>
    exact (congrArg (fitGainOffsetS · fr th _) (ptsSums_scale a c pts)).trans (fitGainOffsetS_scale hk ha hc _ fr th oF)
  | gainBlkOffset =>
    simp only [fitPts, fitGainBlkOffsetS, normPts_scale hk, ptsSums_scale, fitGainS_scale (one_mul c) hc.ne' hc.ne',
      Option.map_map]
    refine congrArg (Option.map · _) (funext fun p => ?_)
    simp only [Function.comp_apply, scaleParams]
    congr 1 <;> ring

end Homonim
