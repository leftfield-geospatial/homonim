/-
  The kernel fit on the co-gridded block of two optional images on one grid (`imgBlock`, `imgParams`): what every
  whole-image pipeline fits its parameters with, on the reference grid (`ImagePair.params`) and on the source grid
  (`ImagePair.paramsSrc`, and the pipelines on what a block read).
-/
import Homonim.Lemmas.Image
import Homonim.Lemmas.Kernel
import Homonim.Lemmas.Resampling

namespace Homonim

/-! ### the co-gridded block of two images, and the fit on it -/

/-- the `h x w` block of two images on one grid: 0 where a pixel is invalid (`ImagePair.block`, `ImagePair.blockSrc`) -/
def imgBlock (h w : Nat) (A B : ImgO) : Block :=
  { h := h, w := w
    src := fun i j => (A i j).getD 0, ref := fun i j => (B i j).getD 0
    sm := fun i j => (A i j).isSome, rm := fun i j => (B i j).isSome }

/-- the fit (no in-painting) at pixel `(i, j)` of the `nr x nc` grid the images `A` (source) and `B` (reference) share; `none`
    outside the grid (`ImagePair.params`, `ImagePair.paramsSrc`) -/
def imgParams (nr nc : Int) (A B : ImgO) (model : Model) (kh kw : Nat) (n0 n1 : Rat) (i j : Int) : Option Params :=
  if 0 ≤ i ∧ i < nr ∧ 0 ≤ j ∧ j < nc then
    fitAt (imgBlock nr.toNat nc.toNat A B) model kh kw false none n0 n1 (fun _ _ => none) i.toNat j.toNat
  else none

theorem ImagePair.params_eq (p : ImagePair) (model : Model) (kh kw : Nat) (n0 n1 : Rat) :
    p.params model kh kw n0 n1 = imgParams p.Rr.n p.Rc.n p.srcDs p.ref model kh kw n0 n1 := rfl

theorem ImagePair.paramsSrc_eq (p : ImagePair) (model : Model) (kh kw : Nat) (n0 n1 : Rat) (m : Resampling) :
    p.paramsSrc model kh kw n0 n1 m = imgParams p.Sr.n p.Sc.n p.src (p.refOnSrc m) model kh kw n0 n1 := rfl

theorem imgBlock_m (h w : Nat) (A B : ImgO) (i j : Nat) :
    (imgBlock h w A B).m i j = ((A i j).isSome && (B i j).isSome) := rfl

theorem fitAt_of_not_m (b : Block) (model : Model) (kh kw : Nat) (fr : Bool) (th : Option ℚ) (n0 n1 : ℚ)
    (oF : Nat → Nat → Option ℚ) (r c : Nat) (hm : b.m r c = false) :
    fitAt b model kh kw fr th n0 n1 oF r c = none := by
  unfold fitAt
  rw [if_neg (by rw [hm]; exact Bool.false_ne_true)]

/-- parameters exist only inside the grid, where both images are valid -/
theorem imgParams_isSome_imp {nr nc : Int} {A B : ImgO} {model : Model} {kh kw : Nat} {n0 n1 : Rat} {i j : Int}
    (h : (imgParams nr nc A B model kh kw n0 n1 i j).isSome = true) :
    (0 ≤ i ∧ i < nr ∧ 0 ≤ j ∧ j < nc) ∧ (A i j).isSome = true ∧ (B i j).isSome = true := by
  unfold imgParams at h
  split at h
  · rename_i hin
    refine ⟨hin, ?_⟩
    cases hm : (imgBlock nr.toNat nc.toNat A B).m i.toNat j.toNat with
    | false => rw [fitAt_of_not_m _ _ _ _ _ _ _ _ _ _ _ hm] at h; cases h
    | true =>
      rw [imgBlock_m, Int.toNat_of_nonneg hin.1, Int.toNat_of_nonneg hin.2.2.1, Bool.and_eq_true] at hm
      exact hm
  · cases h

theorem imgParams_none_of_none {nr nc : Int} {A B : ImgO} (model : Model) (kh kw : Nat) (n0 n1 : Rat) {i j : Int}
    (h : A i j = none) : imgParams nr nc A B model kh kw n0 n1 i j = none := by
  cases hp : imgParams nr nc A B model kh kw n0 n1 i j with
  | none => rfl
  | some v =>
    have := (imgParams_isSome_imp (by rw [hp]; rfl)).2.1
    rw [h] at this
    cases this

/-! ### the fit reads the two images only on the kernel window of the pixel -/

theorem winPts_congr_local (b1 b2 : Block) (hh : b1.h = b2.h) (hw : b1.w = b2.w) (kh kw r c : Nat)
    (H : ∀ i j, (i, j) ∈ winPos kh kw b2.h b2.w r c →
      b1.m i j = b2.m i j ∧ (b2.m i j = true → b1.src i j = b2.src i j ∧ b1.ref i j = b2.ref i j)) :
    b1.winPts kh kw r c = b2.winPts kh kw r c := by
  unfold Block.winPts
  rw [hh, hw, List.filter_congr fun p hp => (H p.1 p.2 hp).1]
  apply List.map_congr_left
  intro p hp
  rw [List.mem_filter] at hp
  rw [((H p.1 p.2 hp.1).2 hp.2).1, ((H p.1 p.2 hp.1).2 hp.2).2]

theorem fitAt_congr_local (b1 b2 : Block) (hh : b1.h = b2.h) (hw : b1.w = b2.w) (model : Model) (kh kw : Nat)
    (fr : Bool) (th : Option ℚ) (n0 n1 : ℚ) (oF : Nat → Nat → Option ℚ) (r c : Nat)
    (hm : b1.m r c = b2.m r c)
    (H : ∀ i j, (i, j) ∈ winPos kh kw b2.h b2.w r c →
      b1.m i j = b2.m i j ∧ (b2.m i j = true → b1.src i j = b2.src i j ∧ b1.ref i j = b2.ref i j)) :
    fitAt b1 model kh kw fr th n0 n1 oF r c = fitAt b2 model kh kw fr th n0 n1 oF r c := by
  unfold fitAt
  rw [hm]
  split
  · cases model with
    | gain => simp only; rw [sums_eq_ptsSums, sums_eq_ptsSums, winPts_congr_local b1 b2 hh hw kh kw r c H]
    | gainOffset => simp only; rw [sums_eq_ptsSums, sums_eq_ptsSums, winPts_congr_local b1 b2 hh hw kh kw r c H]
    | gainBlkOffset =>
      simp only
      rw [sums_eq_ptsSums, sums_eq_ptsSums,
        winPts_congr_local (b1.normalised n0 n1) (b2.normalised n0 n1) hh hw kh kw r c fun i j hij =>
          ⟨(H i j hij).1, fun hmij => by
            simp only [Block.normalised, ((H i j hij).2 hmij).1, ((H i j hij).2 hmij).2, and_self]⟩]
  · rfl

/-- the fit at `(i, j)` reads the source image on the kernel window of `(i, j)` clipped to the grid, and the reference image
    where the source is valid there -/
theorem imgParams_congr (nr nc : Int) (A1 B1 A2 B2 : ImgO) (model : Model) (kh kw : Nat) (n0 n1 : Rat) (i j : Int)
    (H : ∀ a b : Int, 0 ≤ a ∧ a < nr → 0 ≤ b ∧ b < nc →
      i - ((kh / 2 : Nat) : Int) ≤ a ∧ a ≤ i + ((kh / 2 : Nat) : Int) →
      j - ((kw / 2 : Nat) : Int) ≤ b ∧ b ≤ j + ((kw / 2 : Nat) : Int) →
      A1 a b = A2 a b ∧ (A2 a b ≠ none → B1 a b = B2 a b)) :
    imgParams nr nc A1 B1 model kh kw n0 n1 i j = imgParams nr nc A2 B2 model kh kw n0 n1 i j := by
  unfold imgParams
  split
  · rename_i hin
    have P : ∀ a b : Nat, (a : Int) < nr → (b : Int) < nc →
        i - ((kh / 2 : Nat) : Int) ≤ (a : Int) ∧ (a : Int) ≤ i + ((kh / 2 : Nat) : Int) →
        j - ((kw / 2 : Nat) : Int) ≤ (b : Int) ∧ (b : Int) ≤ j + ((kw / 2 : Nat) : Int) →
        (imgBlock nr.toNat nc.toNat A1 B1).m a b = (imgBlock nr.toNat nc.toNat A2 B2).m a b ∧
          ((imgBlock nr.toNat nc.toNat A2 B2).m a b = true →
            (imgBlock nr.toNat nc.toNat A1 B1).src a b = (imgBlock nr.toNat nc.toNat A2 B2).src a b ∧
              (imgBlock nr.toNat nc.toNat A1 B1).ref a b = (imgBlock nr.toNat nc.toNat A2 B2).ref a b) := by
      intro a b han hbn ha hb
      obtain ⟨h1, h2⟩ := H a b ⟨by omega, han⟩ ⟨by omega, hbn⟩ ha hb
      show ((A1 a b).isSome && (B1 a b).isSome) = ((A2 a b).isSome && (B2 a b).isSome) ∧
        (((A2 a b).isSome && (B2 a b).isSome) = true →
          (A1 a b).getD 0 = (A2 a b).getD 0 ∧ (B1 a b).getD 0 = (B2 a b).getD 0)
      rw [h1]
      cases hA : A2 a b with
      | none => simp
      | some x => rw [h2 (by rw [hA]; simp)]; simp
    apply fitAt_congr_local (imgBlock nr.toNat nc.toNat A1 B1) (imgBlock nr.toNat nc.toNat A2 B2) rfl rfl
    · exact (P i.toNat j.toNat (by omega) (by omega) (by omega) (by omega)).1
    · intro a b hab
      obtain ⟨⟨a0, a1, a2⟩, ⟨b0, b1, b2⟩⟩ := (mem_winPos ..).1 hab
      have ha0 : a < nr.toNat := a0
      have hb0 : b < nc.toNat := b0
      exact P a b (by omega) (by omega) (by omega) (by omega)
  · rfl

/-! ### an empty kernel never fits -/

theorem winPos_nil_of_zero (kh kw h w r c : Nat) (hk : kh = 0 ∨ kw = 0) : winPos kh kw h w r c = [] := by
  rcases hk with rfl | rfl
  · rfl
  · exact List.flatMap_eq_nil_iff.2 fun _ _ => rfl

theorem fitAt_none_of_empty_kernel (b : Block) (model : Model) (kh kw : Nat) (hk : kh = 0 ∨ kw = 0) (n0 n1 : Rat)
    (r c : Nat) : fitAt b model kh kw false none n0 n1 (fun _ _ => none) r c = none := by
  unfold fitAt
  split
  · have hs : ∀ b' : Block, b'.sums kh kw r c = ⟨0, 0, 0, 0, 0, 0⟩ := fun b' => by
      simp only [Block.sums, boxSum, winPos_nil_of_zero kh kw _ _ _ _ hk, List.map_nil, List.sum_nil]
    cases model <;> simp [hs, fitGainS, fitGainBlkOffsetS, fitGainOffsetS, ols, olsGain, divO]
  · rfl

theorem imgParams_none_of_empty_kernel (nr nc : Int) (A B : ImgO) (model : Model) (kh kw : Nat) (hk : kh = 0 ∨ kw = 0)
    (n0 n1 : Rat) (i j : Int) : imgParams nr nc A B model kh kw n0 n1 i j = none := by
  unfold imgParams
  split
  · exact fitAt_none_of_empty_kernel _ model kh kw hk n0 n1 _ _
  · rfl

/-! ### gain model on a positive source -/

/-- gain model, positive source, kernel at least 1 x 1: inside the grid the fit succeeds exactly where both images are
    valid (the source sum over the window is positive) -/
theorem imgParams_gain_isSome (nr nc : Int) (A B : ImgO) (hpos : ∀ r c x, A r c = some x → 0 < x) (kh kw : Nat)
    (hkh : 0 < kh) (hkw : 0 < kw) (n0 n1 : Rat) (i j : Int) (hin : 0 ≤ i ∧ i < nr ∧ 0 ≤ j ∧ j < nc) :
    (imgParams nr nc A B .gain kh kw n0 n1 i j).isSome = ((A i j).isSome && (B i j).isSome) := by
  have hm := imgBlock_m nr.toNat nc.toNat A B i.toNat j.toNat
  rw [Int.toNat_of_nonneg hin.1, Int.toNat_of_nonneg hin.2.2.1] at hm
  unfold imgParams
  rw [if_pos hin, ← hm]
  cases hmb : (imgBlock nr.toNat nc.toNat A B).m i.toNat j.toNat with
  | false => rw [fitAt_of_not_m _ _ _ _ _ _ _ _ _ _ _ hmb]; rfl
  | true =>
    apply gain_exists_of_pos _ kh kw false none n0 n1 _ _ _ hmb
      (winPts_ne_nil _ kh kw _ _ (show i.toNat < nr.toNat by omega) (show j.toNat < nc.toNat by omega) hkh hkw hmb)
    intro q hq
    simp only [Block.winPts, List.mem_map, List.mem_filter, imgBlock_m, Bool.and_eq_true] at hq
    obtain ⟨ab, ⟨_, hA, _⟩, rfl⟩ := hq
    obtain ⟨v, hv⟩ := Option.isSome_iff_exists.mp hA
    show 0 < (A (ab.1 : Int) (ab.2 : Int)).getD 0
    rw [hv]
    exact hpos _ _ v hv

/-! ### two images on a line -/

/-- the jointly valid points of every window lie on the line the two images satisfy -/
theorem imgBlock_winPts_onLine (h w : Nat) (A B : ImgO) (a b : ℚ)
    (hline : ∀ i j x y, A i j = some x → B i j = some y → y = a * x + b) (kh kw r c : Nat) :
    OnLine a b ((imgBlock h w A B).winPts kh kw r c) := by
  intro q hq
  simp only [Block.winPts, List.mem_map, List.mem_filter, imgBlock_m, Bool.and_eq_true] at hq
  obtain ⟨ab, ⟨_, hA, hB⟩, rfl⟩ := hq
  obtain ⟨x, hx⟩ := Option.isSome_iff_exists.mp hA
  obtain ⟨y, hy⟩ := Option.isSome_iff_exists.mp hB
  show (B (ab.1 : Int) (ab.2 : Int)).getD 0 = a * (A (ab.1 : Int) (ab.2 : Int)).getD 0 + b
  rw [hx, hy]
  exact hline _ _ x y hx hy

/-- gain model: wherever the fit exists it is exactly `(a, 0)` -/
theorem imgParams_gain_line (nr nc : Int) (A B : ImgO) (a : ℚ) (hline : ∀ i j x y, A i j = some x → B i j = some y → y = a * x)
    (kh kw : Nat) (n0 n1 : ℚ) (i j : Int) (prm : Params) (h : imgParams nr nc A B .gain kh kw n0 n1 i j = some prm) :
    prm.gain = a ∧ prm.offset = 0 := by
  unfold imgParams fitAt at h
  split at h
  · split at h
    · simp only at h
      rw [sums_eq_ptsSums] at h
      obtain ⟨hS, hg, ho⟩ := fitGainS_some _ _ _ h
      refine ⟨hg.trans (fit_recovers_line_gain a _ ?_ hS), ho⟩
      exact imgBlock_winPts_onLine _ _ A B a 0 (fun i j x y hx hy => by rw [hline i j x y hx hy, add_zero]) _ _ _ _
    · cases h
  · cases h

/-- gain-offset model (no in-painting): wherever the fit exists it is exactly `(a, b)` -/
theorem imgParams_gainOffset_line (nr nc : Int) (A B : ImgO) (a b : ℚ)
    (hline : ∀ i j x y, A i j = some x → B i j = some y → y = a * x + b)
    (kh kw : Nat) (n0 n1 : ℚ) (i j : Int) (prm : Params) (h : imgParams nr nc A B .gainOffset kh kw n0 n1 i j = some prm) :
    prm.gain = a ∧ prm.offset = b := by
  unfold imgParams fitAt at h
  split at h
  · split at h
    · simp only [fitGainOffsetS] at h
      rw [sums_eq_ptsSums] at h
      obtain ⟨⟨g, o⟩, ho, rfl⟩ := Option.map_eq_some_iff.1 h
      obtain ⟨hN, hD, hg, ho2⟩ := ols_some _ g o ho
      obtain ⟨e1, e2⟩ := fit_recovers_line_gain_offset a b _ (imgBlock_winPts_onLine _ _ A B a b hline _ _ _ _) hN hD
      have hga : g = a := hg.trans e1
      refine ⟨hga, ?_⟩
      show o = b
      rw [ho2, hga, ← e2]
      unfold olsO
      rw [e1]
      rfl
    · cases h
  · cases h

/-! ### scaling -/

theorem getD_map_mul (k : ℚ) (o : Option ℚ) : (o.map (k * ·)).getD 0 = k * o.getD 0 := by
  cases o <;> simp

theorem imgBlock_scale (h w : Nat) (A B : ImgO) (s t : ℚ) :
    imgBlock h w (A.scale s) (B.scale t) = (imgBlock h w A B).scale s t := by
  simp only [imgBlock, Block.scale, ImgO.scale, getD_map_mul, Option.isSome_map]

/-- the gain and gain-offset models do not look at the block normalisation -/
theorem fitAt_norm_irrelevant (b : Block) (model : Model) (hm : model ≠ .gainBlkOffset) (kh kw : Nat) (fr : Bool)
    (th : Option ℚ) (n0 n1 n0' n1' : ℚ) (oF : Nat → Nat → Option ℚ) (r c : Nat) :
    fitAt b model kh kw fr th n0 n1 oF r c = fitAt b model kh kw fr th n0' n1' oF r c := by
  cases model with
  | gainBlkOffset => exact absurd rfl hm
  | gain => rfl
  | gainOffset => rfl

/-- source times `s`, reference times `t`: the parameters scale (gain by `t / s`, offset by `t`), with the same validity -/
theorem imgParams_scale (nr nc : Int) (A B : ImgO) (s t : ℚ) (hs : 0 < s) (ht : 0 < t) (model : Model)
    (hm : model ≠ .gainBlkOffset) (kh kw : Nat) (n0 n1 : ℚ) (i j : Int) :
    imgParams nr nc (A.scale s) (B.scale t) model kh kw n0 n1 i j =
      (imgParams nr nc A B model kh kw n0 n1 i j).map (scaleParams s t) := by
  unfold imgParams
  rw [imgBlock_scale]
  split
  · rw [fitAt_norm_irrelevant _ model hm kh kw false none n0 n1 (n0 * (t / s)) (n1 * t)]
    exact fitAt_scale _ s t hs ht model kh kw false none n0 n1 (fun _ _ => none) i.toNat j.toNat
  · rfl

end Homonim
