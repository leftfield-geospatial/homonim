/-
  What the resampling methods of `Model/Resample.lean` read, when they are valid, and how they treat constants and factors.
  `average`, `bilinear` (and `cubic_spline`, `Lemmas/Wide.lean`) are normalised means over a separable support (`supp`);
  the facts about them are facts about `wmean` and about the 1-D supports of `Lemmas/Grid.lean`.
-/
import Homonim.Lemmas.Grid
import Homonim.Props.C02
import Homonim.Props.C03
import Homonim.Props.C07

namespace Homonim

/-- scaling an image by a constant (invalid stays invalid) -/
def ImgO.scale (k : Rat) (img : ImgO) : ImgO := fun i j => (img i j).map (k * ·)

/-! ### normalised means -/

theorem wmean_nil : wmean [] = none := by
  simp [wmean, divO]

theorem sum_pos_of_nonneg_of_exists (l : List ℚ) (h : ∀ x ∈ l, 0 ≤ x) (hp : ∃ x ∈ l, 0 < x) : 0 < l.sum := by
  obtain ⟨x, hx, hxp⟩ := hp
  induction l with
  | nil => cases hx
  | cons y ys ih =>
    rw [List.sum_cons]
    have hys := sum_nonneg_of_nonneg ys fun z hz => h z (List.mem_cons_of_mem _ hz)
    rcases List.mem_cons.mp hx with rfl | hmem
    · linarith
    · linarith [ih (fun z hz => h z (List.mem_cons_of_mem _ hz)) hmem, h y List.mem_cons_self]

/-- a normalised mean with non-negative weights that do not all vanish exists -/
theorem wmean_isSome_of_nonneg (l : List (ℚ × ℚ)) (hw : ∀ p ∈ l, 0 ≤ p.1) (hpos : ∃ p ∈ l, 0 < p.1) :
    (wmean l).isSome = true := by
  have hsum : 0 < (l.map fun p => p.1).sum := by
    apply sum_pos_of_nonneg_of_exists
    · intro x hx; obtain ⟨p, hp, rfl⟩ := List.mem_map.1 hx; exact hw p hp
    · obtain ⟨p, hp, hpp⟩ := hpos
      exact ⟨p.1, List.mem_map.mpr ⟨p, hp, rfl⟩, hpp⟩
  simp [wmean, divO, ne_of_gt hsum]

/-- a normalised mean of a constant, if it exists, is that constant -/
theorem wmean_const_of_some (k : ℚ) (l : List (ℚ × ℚ)) (hk : ∀ p ∈ l, p.2 = k) (v : ℚ) (h : wmean l = some v) :
    v = k := by
  have hw : (l.map fun p => p.1).sum ≠ 0 := fun h0 => by simp [wmean, divO, h0] at h
  exact Option.some.inj (h.symm.trans (resample_const k l hk hw))

/-! ### separable supports -/

/-- (weight, value) pairs over the valid pixels of a separable support; `μ` multiplies the two 1-D weights -/
def supp {α : Type} (μ : α → α → Rat) (wr wc : List (Int × α)) (img : ImgO) : List (Rat × Rat) :=
  wr.flatMap fun iw => wc.filterMap fun kv => (img iw.1 kv.1).map fun x => (μ iw.2 kv.2, x)

/-- integer weights, as `average` and `bilinear` have them -/
abbrev mulZ (a b : Int) : Rat := ((a * b : Int) : Rat)

theorem avg2_eq_supp (Sr Sc Dr Dc : Axis) (img : ImgO) (a b : Int) :
    avg2 Sr Sc Dr Dc img a b = wmean (supp mulZ (avgWeights1 Sr Dr a) (avgWeights1 Sc Dc b) img) := rfl

theorem mem_supp {α : Type} (μ : α → α → Rat) (wr wc : List (Int × α)) (img : ImgO) (q : Rat × Rat) :
    q ∈ supp μ wr wc img ↔ ∃ iw ∈ wr, ∃ kv ∈ wc, ∃ x, img iw.1 kv.1 = some x ∧ q = (μ iw.2 kv.2, x) := by
  simp only [supp, List.mem_flatMap, List.mem_filterMap, Option.map_eq_some_iff, eq_comm (a := q)]

theorem supp_congr {α : Type} (μ : α → α → Rat) (wr wc : List (Int × α)) (f g : ImgO)
    (h : ∀ iw ∈ wr, ∀ kv ∈ wc, f iw.1 kv.1 = g iw.1 kv.1) : supp μ wr wc f = supp μ wr wc g :=
  List.flatMap_congr fun iw hiw => List.filterMap_congr fun kv hkv => by rw [h iw hiw kv hkv]

theorem supp_scale {α : Type} (μ : α → α → Rat) (wr wc : List (Int × α)) (img : ImgO) (k : ℚ) :
    supp μ wr wc (img.scale k) = (supp μ wr wc img).map fun q => (q.1, k * q.2) := by
  unfold supp ImgO.scale
  rw [List.map_flatMap]
  congr 1; funext iw
  rw [List.map_filterMap]
  congr 1; funext kv
  cases img iw.1 kv.1 <;> rfl

/-- a mean over a separable support is homogeneous, with the same validity -/
theorem wmean_supp_scale {α : Type} (μ : α → α → Rat) (wr wc : List (Int × α)) (img : ImgO) (k : ℚ) :
    wmean (supp μ wr wc (img.scale k)) = (wmean (supp μ wr wc img)).map (k * ·) := by
  rw [supp_scale, resample_linear]

/-- a mean over the valid pixels of a separable support of an image whose valid pixels all carry `k` is `k` -/
theorem wmean_supp_const {α : Type} (μ : α → α → Rat) (wr wc : List (Int × α)) (img : ImgO) (k : ℚ)
    (hk : ∀ i j v, img i j = some v → v = k) (g : ℚ) (h : wmean (supp μ wr wc img) = some g) : g = k := by
  apply wmean_const_of_some k _ _ g h
  intro q hq
  obtain ⟨iw, _, kv, _, x, hx, rfl⟩ := (mem_supp ..).mp hq
  exact hk _ _ _ hx

/-- a mean with non-negative weights exists as soon as one valid pixel of the support has a positive weight -/
theorem wmean_supp_isSome {α : Type} (μ : α → α → Rat) (wr wc : List (Int × α)) (img : ImgO)
    (hμ : ∀ iw ∈ wr, ∀ kv ∈ wc, 0 ≤ μ iw.2 kv.2) (iw kv : Int × α) (hiw : iw ∈ wr) (hkv : kv ∈ wc)
    (hp : 0 < μ iw.2 kv.2) (hv : (img iw.1 kv.1).isSome = true) : (wmean (supp μ wr wc img)).isSome = true := by
  obtain ⟨v, hv⟩ := Option.isSome_iff_exists.mp hv
  apply wmean_isSome_of_nonneg
  · intro q hq
    obtain ⟨iw', hiw', kv', hkv', x, _, rfl⟩ := (mem_supp ..).mp hq
    exact hμ _ hiw' _ hkv'
  · exact ⟨_, (mem_supp ..).mpr ⟨iw, hiw, kv, hkv, v, hv, rfl⟩, hp⟩

theorem mulZ_nonneg (a b : Int) (ha : 0 ≤ a) (hb : 0 ≤ b) : 0 ≤ mulZ a b :=
  Int.cast_nonneg (Int.mul_nonneg ha hb)

theorem mulZ_pos (a b : Int) (ha : 0 < a) (hb : 0 < b) : 0 < mulZ a b :=
  Int.cast_pos.2 (Int.mul_pos ha hb)

/-! ### `average` -/

/-- `average` reads the image only at the pixels that meet the destination pixel -/
theorem avg2_congr (Sr Sc Dr Dc : Axis) (f g : ImgO) (a b : Int)
    (h : ∀ iw ∈ avgWeights1 Sr Dr a, ∀ kv ∈ avgWeights1 Sc Dc b, f iw.1 kv.1 = g iw.1 kv.1) :
    avg2 Sr Sc Dr Dc f a b = avg2 Sr Sc Dr Dc g a b := by
  rw [avg2_eq_supp, avg2_eq_supp, supp_congr _ _ _ f g h]

/-- `average` is invalid where no source pixel meets the destination pixel along one of the axes -/
theorem avg2_none_of_nil (Sr Sc Dr Dc : Axis) (img : ImgO) (a b : Int)
    (h : avgWeights1 Sr Dr a = [] ∨ avgWeights1 Sc Dc b = []) : avg2 Sr Sc Dr Dc img a b = none := by
  have : supp mulZ (avgWeights1 Sr Dr a) (avgWeights1 Sc Dc b) img = [] := by
    rcases h with h | h <;> simp [supp, h]
  rw [avg2_eq_supp, this, wmean_nil]

theorem avg2_pos (Sr Sc Dr Dc : Axis) (img : ImgO) (hpos : ∀ r c x, img r c = some x → 0 < x) (a b : Int) (v : Rat)
    (h : avg2 Sr Sc Dr Dc img a b = some v) : 0 < v := by
  rw [avg2_eq_supp] at h
  have hne : supp mulZ (avgWeights1 Sr Dr a) (avgWeights1 Sc Dc b) img ≠ [] := by
    intro hnil; rw [hnil, wmean_nil] at h; cases h
  apply wmean_pos _ hne _ _ v h
  · intro q hq
    obtain ⟨iw, hiw, kv, hkv, x, _, rfl⟩ := (mem_supp ..).mp hq
    exact mulZ_pos _ _ (mem_avgWeights1 _ _ _ _ hiw).2.2 (mem_avgWeights1 _ _ _ _ hkv).2.2
  · intro q hq
    obtain ⟨iw, _, kv, _, x, hx, rfl⟩ := (mem_supp ..).mp hq
    exact hpos _ _ _ hx

/-- `average` is valid as soon as a valid source pixel meets the destination pixel -/
theorem avg2_isSome (Sr Sc Dr Dc : Axis) (img : ImgO) (a b : Int)
    (r c wr wc : Int) (hwr : (r, wr) ∈ avgWeights1 Sr Dr a) (hwc : (c, wc) ∈ avgWeights1 Sc Dc b)
    (hx : (img r c).isSome = true) : (avg2 Sr Sc Dr Dc img a b).isSome = true :=
  wmean_supp_isSome mulZ _ _ img
    (fun _ hiw _ hkv => le_of_lt (mulZ_pos _ _ (mem_avgWeights1 _ _ _ _ hiw).2.2 (mem_avgWeights1 _ _ _ _ hkv).2.2))
    (r, wr) (c, wc) hwr hwc (mulZ_pos _ _ (mem_avgWeights1 _ _ _ _ hwr).2.2 (mem_avgWeights1 _ _ _ _ hwc).2.2) hx

theorem avg2_scale (Sr Sc Dr Dc : Axis) (img : ImgO) (k : ℚ) (a b : Int) :
    avg2 Sr Sc Dr Dc (img.scale k) a b = (avg2 Sr Sc Dr Dc img a b).map (k * ·) :=
  wmean_supp_scale mulZ _ _ img k

/-! ### `nearest` and `bilinear` -/

theorem bilinear2_eq (Sr Sc Dr Dc : Axis) (img : ImgO) (jr jc : Int) :
    bilinear2 Sr Sc Dr Dc img jr jc =
      match img (nearestIdx Sr Dr jr) (nearestIdx Sc Dc jc) with
      | none => none
      | some _ => wmean (supp mulZ (bilinWeights1 Sr Dr jr) (bilinWeights1 Sc Dc jc) img) := rfl

/-- the up-sampling methods read the image only on the 2 x 2 support -/
theorem resample2_congr (ups : Resampling) (hups : ups ≠ .average) (Sr Sc Dr Dc : Axis) (hSr : 0 < Sr.p) (hSc : 0 < Sc.p)
    (f g : ImgO) (jr jc : Int)
    (h : ∀ a b, bilinIdx Sr Dr jr ≤ a ∧ a ≤ bilinIdx Sr Dr jr + 1 → bilinIdx Sc Dc jc ≤ b ∧ b ≤ bilinIdx Sc Dc jc + 1 →
      f a b = g a b) :
    resample2 ups Sr Sc Dr Dc f jr jc = resample2 ups Sr Sc Dr Dc g jr jc := by
  have hn : f (nearestIdx Sr Dr jr) (nearestIdx Sc Dc jc) = g (nearestIdx Sr Dr jr) (nearestIdx Sc Dc jc) :=
    h _ _ (by rcases nearestIdx_cases Sr Dr hSr jr with e | e <;> omega)
      (by rcases nearestIdx_cases Sc Dc hSc jc with e | e <;> omega)
  cases ups with
  | average => exact absurd rfl hups
  | nearest => exact hn
  | bilinear =>
    show bilinear2 Sr Sc Dr Dc f jr jc = bilinear2 Sr Sc Dr Dc g jr jc
    rw [bilinear2_eq, bilinear2_eq, hn, supp_congr _ _ _ f g fun iw hiw kv hkv =>
      h _ _ (mem_bilinWeights1_fst _ _ _ _ hiw) (mem_bilinWeights1_fst _ _ _ _ hkv)]

/-- an up-sampled pixel is valid iff the source pixel that contains its centre is -/
theorem resample2_isSome (ups : Resampling) (hups : ups ≠ .average) (Sr Sc Dr Dc : Axis) (hSr : 0 < Sr.p)
    (hSc : 0 < Sc.p) (img : ImgO) (jr jc : Int) :
    (resample2 ups Sr Sc Dr Dc img jr jc).isSome = (img (nearestIdx Sr Dr jr) (nearestIdx Sc Dc jc)).isSome := by
  cases ups with
  | average => exact absurd rfl hups
  | nearest => rfl
  | bilinear =>
    show (bilinear2 Sr Sc Dr Dc img jr jc).isSome = _
    rw [bilinear2_eq]
    cases hv : img (nearestIdx Sr Dr jr) (nearestIdx Sc Dc jc) with
    | none => rfl
    | some v =>
      obtain ⟨hnr, wr, hwrp, hwr⟩ := bilinWeights1_weights Sr Dr hSr jr
      obtain ⟨hnc, wc, hwcp, hwc⟩ := bilinWeights1_weights Sc Dc hSc jc
      exact wmean_supp_isSome mulZ _ _ img (fun _ hiw _ hkv => mulZ_nonneg _ _ (hnr _ hiw) (hnc _ hkv)) _ _ hwr hwc
        (mulZ_pos _ _ hwrp hwcp) (by rw [hv]; rfl)

/-- up-sampling an image whose valid pixels all carry `k` gives `k` wherever it is valid -/
theorem resample2_const (ups : Resampling) (hups : ups ≠ .average) (Sr Sc Dr Dc : Axis) (img : ImgO) (k : ℚ)
    (hk : ∀ i j v, img i j = some v → v = k) (jr jc : Int) (g : ℚ)
    (h : resample2 ups Sr Sc Dr Dc img jr jc = some g) : g = k := by
  cases ups with
  | average => exact absurd rfl hups
  | nearest => exact hk _ _ _ h
  | bilinear =>
    change bilinear2 Sr Sc Dr Dc img jr jc = some g at h
    rw [bilinear2_eq] at h
    split at h
    · cases h
    · exact wmean_supp_const _ _ _ img k hk g h

/-- every resampling method is homogeneous, with the same validity -/
theorem resample2_scale (m : Resampling) (Sr Sc Dr Dc : Axis) (img : ImgO) (k : ℚ) (a b : Int) :
    resample2 m Sr Sc Dr Dc (img.scale k) a b = (resample2 m Sr Sc Dr Dc img a b).map (k * ·) := by
  cases m with
  | average => exact avg2_scale Sr Sc Dr Dc img k a b
  | nearest => rfl
  | bilinear =>
    show bilinear2 Sr Sc Dr Dc (img.scale k) a b = (bilinear2 Sr Sc Dr Dc img a b).map (k * ·)
    rw [bilinear2_eq, bilinear2_eq]
    show (match (img (nearestIdx Sr Dr a) (nearestIdx Sc Dc b)).map (k * ·) with
      | none => none
      | some _ => _) = _
    cases img (nearestIdx Sr Dr a) (nearestIdx Sc Dc b) with
    | none => rfl
    | some y => exact wmean_supp_scale ..

end Homonim
