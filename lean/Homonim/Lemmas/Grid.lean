/-
  One axis of two pixel grids: which pixels of one grid a pixel (or window) of the other meets, contains the centre of, or
  interpolates from.  Everything is said in terms of pixel edges (`Axis.edge`), which are strictly monotone for a positive
  pixel size, so that the geometric arguments downstream are linear arithmetic over edges.
-/
import Homonim.Model.PartialMask
import Homonim.Lemmas.Geom

namespace Homonim

/-! ### edges -/

theorem Axis.edge_succ (P : Axis) (x : Int) : P.edge (x + 1) = P.edge x + P.p := by
  simp only [Axis.edge, Int.add_mul, Int.one_mul, Int.add_assoc]

theorem Axis.edge_le_edge {P : Axis} (hP : 0 < P.p) {x y : Int} (h : x ≤ y) : P.edge x ≤ P.edge y :=
  Int.add_le_add_left (Int.mul_le_mul_of_nonneg_right h (Int.le_of_lt hP)) _

theorem Axis.lt_of_edge_lt {P : Axis} (hP : 0 < P.p) {x y : Int} (h : P.edge x < P.edge y) : x < y :=
  Int.lt_of_not_ge fun hc => Int.not_le.mpr h (Axis.edge_le_edge hP hc)

theorem Axis.le_of_edge_le {P : Axis} (hP : 0 < P.p) {x y : Int} (h : P.edge x ≤ P.edge y) : x ≤ y := by
  have := @Axis.lt_of_edge_lt P hP x (y + 1) (by rw [P.edge_succ]; omega)
  omega

/-- floor division by `2 * p`, as the pixel-centre computations need it -/
theorem fdiv_two_mul (a p : Int) (hp : 0 < p) : 2 * (a / (2 * p) * p) ≤ a ∧ a < 2 * (a / (2 * p) * p) + 2 * p := by
  have h1 := Int.ediv_mul_le a (Int.ne_of_gt (show 0 < 2 * p by omega))
  have h2 := Int.lt_ediv_add_one_mul_self a (show 0 < 2 * p by omega)
  rw [Int.add_mul, Int.one_mul] at h2
  rw [show a / (2 * p) * (2 * p) = 2 * (a / (2 * p) * p) by rw [Int.mul_comm 2 p, ← Int.mul_assoc, Int.mul_comm]] at h1 h2
  exact ⟨h1, h2⟩

/-! ### the pixels a window meets: `expandTo` -/

/-- pixel `x` of `O` lies in the expansion of the window `w` of `P` iff it meets the ground extent of `w` -/
theorem mem_expandTo_iff (P O : Axis) (hO : 0 < O.p) (w : Win1) (x : Int) :
    ((expandTo P O w).lo ≤ x ∧ x < (expandTo P O w).hi) ↔ (P.edge w.lo < O.edge (x + 1) ∧ O.edge x < P.edge w.hi) := by
  unfold expandTo toOther
  rw [← Int.lt_add_one_iff, Int.ediv_lt_iff_lt_mul hO, lt_cdiv_iff hO]
  unfold Axis.edge
  omega

/-- `expandTo` is monotone in the window -/
theorem expand_subset_expand (P O : Axis) (hP : 0 < P.p) (hO : 0 < O.p) (wi wo : Win1)
    (hsub : wi.lo ≤ wo.lo ∧ wo.hi ≤ wi.hi) (x : Int)
    (hx : (expandTo P O wo).lo ≤ x ∧ x < (expandTo P O wo).hi) :
    (expandTo P O wi).lo ≤ x ∧ x < (expandTo P O wi).hi := by
  rw [mem_expandTo_iff P O hO] at hx ⊢
  have := Axis.edge_le_edge hP hsub.1
  have := Axis.edge_le_edge hP hsub.2
  omega

/-- a pixel that meets a pixel of the window lies in the expansion of the window -/
theorem overlap_in_expand (S R : Axis) (hS : 0 < S.p) (hR : 0 < R.p) (w : Win1) (a : Int)
    (ha : w.lo ≤ a ∧ a < w.hi) (x : Int) (h1 : R.edge a < S.edge (x + 1)) (h2 : S.edge x < R.edge (a + 1)) :
    (expandTo R S w).lo ≤ x ∧ x < (expandTo R S w).hi := by
  rw [mem_expandTo_iff R S hS]
  have := Axis.edge_le_edge hR ha.1
  have := Axis.edge_le_edge hR (show a + 1 ≤ w.hi by omega)
  omega

/-- the rounded image of a window lies inside the expanded image of any window containing it -/
theorem round_subset_expand (P O : Axis) (hP : 0 < P.p) (hO : 0 < O.p) (wi wo : Win1)
    (hsub : wi.lo ≤ wo.lo ∧ wo.hi ≤ wi.hi) (x : Int)
    (hx : (roundTo P O wo).lo ≤ x ∧ x < (roundTo P O wo).hi) :
    (expandTo P O wi).lo ≤ x ∧ x < (expandTo P O wi).hi := by
  have := roundTo_subset_expandTo P O hP hO wi wo hsub
  exact ⟨by omega, by omega⟩

/-! ### `average`: the pixels a pixel meets -/

/-- a pixel in the `average` support of `j` is a pixel of the image, meets pixel `j`, and has a positive weight -/
theorem mem_avgWeights1 (S D : Axis) (j : Int) (iw : Int × Int) (h : iw ∈ avgWeights1 S D j) :
    (0 ≤ iw.1 ∧ iw.1 < S.n) ∧ (D.edge j < S.edge (iw.1 + 1) ∧ S.edge iw.1 < D.edge (j + 1)) ∧ 0 < iw.2 := by
  unfold avgWeights1 at h
  simp only [List.mem_filterMap, List.mem_range] at h
  obtain ⟨i, hi, hif⟩ := h
  split at hif
  · rename_i hw
    cases hif
    have hw' := hw
    unfold overlap1 at hw'
    dsimp only
    exact ⟨by omega, by omega, hw⟩
  · cases hif

/-- a pixel of the image that meets pixel `j` is in its `average` support -/
theorem exists_mem_avgWeights1 (S D : Axis) (hS : 0 < S.p) (hD : 0 < D.p) (j i : Int) (hi : 0 ≤ i ∧ i < S.n)
    (h : D.edge j < S.edge (i + 1) ∧ S.edge i < D.edge (j + 1)) : ∃ w, (i, w) ∈ avgWeights1 S D j := by
  have hw : overlap1 (S.edge i) (S.edge (i + 1)) (D.edge j) (D.edge (j + 1)) > 0 := by
    have := S.edge_succ i
    have := D.edge_succ j
    unfold overlap1
    omega
  refine ⟨overlap1 (S.edge i) (S.edge (i + 1)) (D.edge j) (D.edge (j + 1)),
    List.mem_filterMap.2 ⟨i.toNat, List.mem_range.2 (by omega), ?_⟩⟩
  rw [Int.toNat_of_nonneg hi.1, if_pos hw]

/-- no source pixel meets a reference pixel outside `refWin` -/
theorem avgWeights1_outside (S R : Axis) (hS : 0 < S.p) (hR : 0 < R.p) (a : Int)
    (ha : ¬ ((refWin S R).lo ≤ a ∧ a < (refWin S R).hi)) : avgWeights1 S R a = [] := by
  rw [List.eq_nil_iff_forall_not_mem]
  intro iw hiw
  obtain ⟨h0, ⟨h1, h2⟩, _⟩ := mem_avgWeights1 S R a iw hiw
  apply ha
  unfold refWin
  rw [mem_expandTo_iff S R hR]
  dsimp only [Axis.full]
  have := Axis.edge_le_edge hS h0.1
  have := Axis.edge_le_edge hS (show iw.1 + 1 ≤ S.n by omega)
  exact ⟨by omega, by omega⟩

/-! ### `nearest`: the pixel that contains a pixel's centre -/

/-- pixel `nearestIdx S D j` of `S` contains the centre of pixel `j` of `D` -/
theorem nearestIdx_spec (S D : Axis) (hS : 0 < S.p) (j : Int) :
    2 * S.edge (nearestIdx S D j) ≤ 2 * D.edge j + D.p ∧ 2 * D.edge j + D.p < 2 * S.edge (nearestIdx S D j + 1) := by
  have := fdiv_two_mul (2 * (D.edge j - S.o) + D.p) S.p hS
  rw [S.edge_succ]
  unfold nearestIdx
  unfold Axis.edge at *
  omega

/-- the pixel containing the centre of `j` meets `j` -/
theorem nearest_overlaps (R S : Axis) (hR : 0 < R.p) (hS : 0 < S.p) (j : Int) :
    S.edge j < R.edge (nearestIdx R S j + 1) ∧ R.edge (nearestIdx R S j) < S.edge (j + 1) := by
  have := nearestIdx_spec R S hR j
  have := S.edge_succ j
  omega

theorem nearest_in_expand (R S : Axis) (hR : 0 < R.p) (hS : 0 < S.p) (w : Win1) (j : Int)
    (hj : w.lo ≤ j ∧ j < w.hi) :
    (expandTo S R w).lo ≤ nearestIdx R S j ∧ nearestIdx R S j < (expandTo S R w).hi :=
  overlap_in_expand R S hR hS w j hj _ (nearest_overlaps R S hR hS j).1 (nearest_overlaps R S hR hS j).2

/-- the centre of a pixel of the rounded window lies in the closure of the window's ground extent -/
theorem centre_of_mem_roundTo (R S : Axis) (hS : 0 < S.p) (w : Win1) (r : Int)
    (hr : (roundTo R S w).lo ≤ r ∧ r < (roundTo R S w).hi) :
    2 * R.edge w.lo ≤ 2 * S.edge r + S.p ∧ 2 * S.edge r + S.p ≤ 2 * R.edge w.hi := by
  unfold roundTo toOther at hr
  dsimp only at hr
  have hl := (rhe_within_half (R.edge w.lo - S.o) S.p hS).2
  have hh := (rhe_within_half (R.edge w.hi - S.o) S.p hS).1
  have e1 := Int.mul_le_mul_of_nonneg_right hr.1 (Int.le_of_lt hS)
  have e2 := Int.mul_le_mul_of_nonneg_right (show r + 1 ≤ _ from hr.2) (Int.le_of_lt hS)
  rw [Int.add_mul, Int.one_mul] at e2
  generalize R.edge w.lo = lo at *
  generalize R.edge w.hi = hi at *
  unfold Axis.edge
  omega

/-! ### `bilinear`: the two pixels whose centres bracket a pixel's centre -/

/-- first pixel of the bilinear support of `j` (and second of the 4-pixel supports) -/
def bilinIdx (S D : Axis) (j : Int) : Int := (2 * (D.edge j - S.o) + D.p - S.p) / (2 * S.p)

/-- the centre of pixel `j` of `D` lies between the centres of pixels `bilinIdx` and `bilinIdx + 1` of `S` -/
theorem bilinIdx_spec (S D : Axis) (hS : 0 < S.p) (j : Int) :
    2 * S.edge (bilinIdx S D j) + S.p ≤ 2 * D.edge j + D.p ∧ 2 * D.edge j + D.p < 2 * S.edge (bilinIdx S D j + 1) + S.p := by
  have := fdiv_two_mul (2 * (D.edge j - S.o) + D.p - S.p) S.p hS
  rw [S.edge_succ]
  unfold bilinIdx
  unfold Axis.edge at *
  omega

/-- the weights are the distances of the centre of `j` from the two bracketing centres, swapped -/
theorem bilinWeights1_eq (S D : Axis) (j : Int) :
    bilinWeights1 S D j =
      [(bilinIdx S D j, 2 * S.edge (bilinIdx S D j + 1) + S.p - (2 * D.edge j + D.p)),
       (bilinIdx S D j + 1, 2 * D.edge j + D.p - (2 * S.edge (bilinIdx S D j) + S.p))] := by
  have e := Int.mul_left_comm (bilinIdx S D j) 2 S.p
  rw [S.edge_succ]
  unfold bilinWeights1
  unfold bilinIdx Axis.edge at *
  simp only [List.cons.injEq, Prod.mk.injEq, true_and, and_true]
  omega

theorem mem_bilinWeights1_fst (S D : Axis) (j : Int) (iw : Int × Int) (h : iw ∈ bilinWeights1 S D j) :
    bilinIdx S D j ≤ iw.1 ∧ iw.1 ≤ bilinIdx S D j + 1 := by
  rw [bilinWeights1_eq] at h
  simp only [List.mem_cons, List.not_mem_nil, or_false] at h
  rcases h with rfl | rfl <;> dsimp only <;> omega

/-- the pixel containing the centre is one of the two: the one whose centre is nearer -/
theorem nearestIdx_cases (S D : Axis) (hS : 0 < S.p) (j : Int) :
    nearestIdx S D j = bilinIdx S D j ∨ nearestIdx S D j = bilinIdx S D j + 1 := by
  obtain ⟨n1, n2⟩ := nearestIdx_spec S D hS j
  obtain ⟨b1, b2⟩ := bilinIdx_spec S D hS j
  have := @Axis.lt_of_edge_lt S hS (bilinIdx S D j) (nearestIdx S D j + 1) (by omega)
  have := @Axis.lt_of_edge_lt S hS (nearestIdx S D j) (bilinIdx S D j + 1 + 1) (by rw [S.edge_succ (_ + 1)]; omega)
  omega

/-- both weights are non-negative and the pixel containing the centre has a positive one -/
theorem bilinWeights1_weights (S D : Axis) (hS : 0 < S.p) (j : Int) :
    (∀ iw ∈ bilinWeights1 S D j, 0 ≤ iw.2) ∧ ∃ w, 0 < w ∧ (nearestIdx S D j, w) ∈ bilinWeights1 S D j := by
  obtain ⟨n1, n2⟩ := nearestIdx_spec S D hS j
  obtain ⟨b1, b2⟩ := bilinIdx_spec S D hS j
  rw [bilinWeights1_eq]
  refine ⟨?_, ?_⟩
  · intro iw hiw
    simp only [List.mem_cons, List.not_mem_nil, or_false] at hiw
    rcases hiw with rfl | rfl <;> dsimp only <;> omega
  · rcases nearestIdx_cases S D hS j with h | h <;> rw [h] at n1 n2 ⊢
    · exact ⟨_, by omega, List.mem_cons_self⟩
    · rw [S.edge_succ] at n1
      exact ⟨_, by omega, List.mem_cons_of_mem _ List.mem_cons_self⟩

/-- for a pixel of the rounded window, the pixel containing its centre lies in the closure of the window and the bilinear
    support within the window grown by one pixel at its start -/
theorem support_of_mem_roundTo (S R : Axis) (hS : 0 < S.p) (hR : 0 < R.p) (w : Win1) (r : Int)
    (hr : (roundTo R S w).lo ≤ r ∧ r < (roundTo R S w).hi) :
    (w.lo ≤ nearestIdx R S r ∧ nearestIdx R S r ≤ w.hi) ∧ (w.lo - 1 ≤ bilinIdx R S r ∧ bilinIdx R S r + 1 ≤ w.hi) := by
  obtain ⟨c1, c2⟩ := centre_of_mem_roundTo R S hS w r hr
  obtain ⟨n1, n2⟩ := nearestIdx_spec R S hR r
  obtain ⟨b1, b2⟩ := bilinIdx_spec R S hR r
  have := @Axis.lt_of_edge_lt R hR w.lo (nearestIdx R S r + 1) (by omega)
  have := @Axis.le_of_edge_le R hR (nearestIdx R S r) w.hi (by omega)
  have := @Axis.lt_of_edge_lt R hR w.lo (bilinIdx R S r + 1 + 1) (by rw [R.edge_succ (_ + 1)]; omega)
  have := @Axis.lt_of_edge_lt R hR (bilinIdx R S r) w.hi (by omega)
  omega

/-! ### the first pixel a window meets -/

/-- the first pixel of the expansion contains the leading edge of the window -/
theorem expandTo_lo_spec (P O : Axis) (hO : 0 < O.p) (w : Win1) :
    O.edge (expandTo P O w).lo ≤ P.edge w.lo ∧ P.edge w.lo < O.edge ((expandTo P O w).lo + 1) := by
  have h1 := fdiv_mul_le (P.edge w.lo - O.o) O.p hO
  have h2 := fdiv_mul_gt (P.edge w.lo - O.o) O.p hO
  rw [Int.add_mul, Int.one_mul] at h2
  rw [O.edge_succ]
  show O.edge ((P.edge w.lo - O.o) / O.p) ≤ P.edge w.lo ∧ P.edge w.lo < O.edge ((P.edge w.lo - O.o) / O.p) + O.p
  generalize P.edge w.lo = e at *
  unfold Axis.edge
  omega

/-- the first source pixel position that meets reference pixel `a` contains its leading edge, hence meets it -/
theorem srcUnder_lo_spec (S R : Axis) (hS : 0 < S.p) (hR : 0 < R.p) (a : Int) :
    (S.edge (srcUnder S R a).lo ≤ R.edge a ∧ R.edge a < S.edge ((srcUnder S R a).lo + 1)) ∧
      ((srcUnder S R a).lo ≤ (srcUnder S R a).lo ∧ (srcUnder S R a).lo < (srcUnder S R a).hi) := by
  have h : S.edge (srcUnder S R a).lo ≤ R.edge a ∧ R.edge a < S.edge ((srcUnder S R a).lo + 1) :=
    expandTo_lo_spec R S hS ⟨a, a + 1⟩
  have := R.edge_succ a
  exact ⟨h, (mem_expandTo_iff R S hS ⟨a, a + 1⟩ _).2 ⟨h.2, by dsimp only; omega⟩⟩

/-! ### the windows of a block -/

/-- the input window `pin` of a block lies in the processing window `win` and holds the block's output window `pout` and every
    pixel of `win` within `ρ` of it: what block transparency needs of a partition, with `ρ` the reach of the computation
    (kernel radius plus one) -/
structure Covers (win pin pout : Win1) (ρ : Int) : Prop where
  in_sub : win.lo ≤ pin.lo ∧ pin.hi ≤ win.hi
  out_sub : pin.lo ≤ pout.lo ∧ pout.hi ≤ pin.hi
  near : ∀ a : Int, pout.lo - ρ ≤ a ∧ a < pout.hi + ρ → win.lo ≤ a ∧ a < win.hi → pin.lo ≤ a ∧ a < pin.hi

/-- the windows of `block_pairs` cover up to the overlap: the input window is the output window grown by the overlap and
    clipped to the processing window -/
theorem block_covers (A B s v ρ : Int) (hρ : 0 ≤ ρ) (hv : ρ ≤ v) (k : Nat) :
    Covers ⟨A, B⟩ (procIn A B s v k) (procOut A B s v k) ρ := by
  have e := in_contains_out_plus_overlap_eq A B s v (by omega) k
  refine ⟨?_, in_contains_out_plus_overlap_aux A B s v (by omega) k, fun a ha hab => ?_⟩ <;> rw [e] <;>
    dsimp only at * <;> omega

end Homonim
