/-
  Locality of the kernel fit: a sub-block that contains a pixel's kernel window yields the same window points.
-/
import Homonim.Lemmas.Kernel
import Homonim.Model.Blocks
namespace Homonim

/-- the sub-block `[r0, r0+h) × [c0, c0+w)` of a block, in its own local coordinates -/
def Block.crop (b : Block) (r0 c0 h w : Nat) : Block :=
  { h := h, w := w
    src := fun i j => b.src (i + r0) (j + c0), ref := fun i j => b.ref (i + r0) (j + c0)
    sm := fun i j => b.sm (i + r0) (j + c0), rm := fun i j => b.rm (i + r0) (j + c0) }

theorem axisWin_crop {k n a m c : Nat} (hc : a ≤ c) (hin : ∀ i, i ∈ axisWin k n c → a ≤ i ∧ i < a + m)
    (hsub : a + m ≤ n) : (axisWin k m (c - a)).map (· + a) = axisWin k n c := by
  unfold axisWin at hin ⊢
  rw [List.map_filterMap]
  refine List.filterMap_congr fun d hd => ?_
  simp only
  -- `h1`: offset `d` falls inside the cropped axis, `h2`: inside the whole axis
  split_ifs with h1 h2 h2
  · rw [Option.map_some, ← Int.toNat_add_nat h1.1, Nat.cast_sub hc]
    congr 2
    ring
  · omega
  · have := hin _ (List.mem_filterMap.2 ⟨d, hd, if_pos h2⟩)
    omega
  · rfl

theorem winPos_crop {kh kw H W r0 c0 h w r c : Nat} (hr : r0 ≤ r) (hc : c0 ≤ c)
    (hrin : ∀ i, i ∈ axisWin kh H r → r0 ≤ i ∧ i < r0 + h) (hcin : ∀ j, j ∈ axisWin kw W c → c0 ≤ j ∧ j < c0 + w)
    (hrs : r0 + h ≤ H) (hcs : c0 + w ≤ W) :
    (winPos kh kw h w (r - r0) (c - c0)).map (fun p => (p.1 + r0, p.2 + c0)) = winPos kh kw H W r c := by
  unfold winPos
  rw [← axisWin_crop hr hrin hrs, ← axisWin_crop hc hcin hcs]
  simp only [List.map_flatMap, List.flatMap_map, List.map_map, Function.comp_def]

theorem winPts_crop (b : Block) (kh kw r0 c0 h w r c : Nat) (hr : r0 ≤ r) (hc : c0 ≤ c)
    (hrin : ∀ i, i ∈ axisWin kh b.h r → r0 ≤ i ∧ i < r0 + h) (hcin : ∀ j, j ∈ axisWin kw b.w c → c0 ≤ j ∧ j < c0 + w)
    (hrs : r0 + h ≤ b.h) (hcs : c0 + w ≤ b.w) :
    (b.crop r0 c0 h w).winPts kh kw (r - r0) (c - c0) = b.winPts kh kw r c := by
  unfold Block.winPts
  rw [← winPos_crop hr hc hrin hcin hrs hcs]
  simp only [Block.crop, Block.m, List.filter_map, List.map_map, Function.comp_def]
end Homonim
