/-
  Reference-grid processing (`ImagePair.corrected`, `ImagePair.correctedWide`, and the same on what a block read).

  Two ideas carry everything here.  (1) The pair as a block sees it (`restrictTo`) agrees with the whole pair on the averaged
  source and the reference at every reference pixel of the block's input window, and outside the processing window both see
  nothing; hence the parameters agree wherever the kernel window, clipped to the processing window, lies in the input window.
  (2) The pipeline is the same for every method `U` that brings the two parameter images to the source grid
  (`correctedWith`); what a theorem needs of `U` - which pixels it reads, when it is valid, that it keeps constants, that it
  is homogeneous - is a hypothesis, discharged for `resample2` in `Lemmas/Resampling.lean` and for the 4 x 4 kernels in
  `Lemmas/Wide.lean`.
-/
import Homonim.Lemmas.ImageFit

namespace Homonim

/-! ### the restricted pair against the whole pair -/

/-- the pair as a block sees it, with the source window the expansion of the reference window -/
abbrev ImagePair.restrictTo (p : ImagePair) (pinR pinC : Win1) : ImagePair :=
  p.restrict pinR pinC (expandTo p.Rr p.Sr pinR) (expandTo p.Rc p.Sc pinC)

/-- the averaged source is invalid outside `refWin` -/
theorem srcDs_none_outside (p : ImagePair) (hSr : 0 < p.Sr.p) (hSc : 0 < p.Sc.p) (hRr : 0 < p.Rr.p)
    (hRc : 0 < p.Rc.p) (a b : Int)
    (h : ¬ (((refWin p.Sr p.Rr).lo ≤ a ∧ a < (refWin p.Sr p.Rr).hi) ∧
      ((refWin p.Sc p.Rc).lo ≤ b ∧ b < (refWin p.Sc p.Rc).hi))) : p.srcDs a b = none := by
  apply avg2_none_of_nil
  by_cases ha : (refWin p.Sr p.Rr).lo ≤ a ∧ a < (refWin p.Sr p.Rr).hi
  · exact Or.inr (avgWeights1_outside p.Sc p.Rc hSc hRc b fun hb => h ⟨ha, hb⟩)
  · exact Or.inl (avgWeights1_outside p.Sr p.Rr hSr hRr a ha)

theorem ImagePair.blockRows_covers (p : ImagePair) (sr vr ρ : Int) (hρ : 0 ≤ ρ) (hv : ρ ≤ vr) (kr : Nat) :
    Covers (refWin p.Sr p.Rr) (p.blockRows sr vr kr).pin (p.blockRows sr vr kr).pout ρ :=
  block_covers _ _ sr vr ρ hρ hv kr

theorem ImagePair.blockCols_covers (p : ImagePair) (sc vc ρ : Int) (hρ : 0 ≤ ρ) (hv : ρ ≤ vc) (kc : Nat) :
    Covers (refWin p.Sc p.Rc) (p.blockCols sc vc kc).pin (p.blockCols sc vc kc).pout ρ :=
  block_covers _ _ sc vc ρ hρ hv kc

/-- at a reference pixel that is inside the block's reference window whenever it is inside the processing window, the
    down-sampled source agrees, and where that is valid so does the reference -/
theorem restrict_point_agree (p : ImagePair) (hSr : 0 < p.Sr.p) (hSc : 0 < p.Sc.p) (hRr : 0 < p.Rr.p)
    (hRc : 0 < p.Rc.p) (pinR pinC : Win1) (a b : Int)
    (h : ((refWin p.Sr p.Rr).lo ≤ a ∧ a < (refWin p.Sr p.Rr).hi) →
         ((refWin p.Sc p.Rc).lo ≤ b ∧ b < (refWin p.Sc p.Rc).hi) →
         (pinR.lo ≤ a ∧ a < pinR.hi) ∧ (pinC.lo ≤ b ∧ b < pinC.hi)) :
    (p.restrictTo pinR pinC).srcDs a b = p.srcDs a b ∧
      (p.srcDs a b ≠ none → (p.restrictTo pinR pinC).ref a b = p.ref a b) := by
  by_cases hab : ((refWin p.Sr p.Rr).lo ≤ a ∧ a < (refWin p.Sr p.Rr).hi) ∧
      ((refWin p.Sc p.Rc).lo ≤ b ∧ b < (refWin p.Sc p.Rc).hi)
  · obtain ⟨hpa, hpb⟩ := h hab.1 hab.2
    refine ⟨avg2_congr _ _ _ _ _ _ a b fun iw hiw kv hkv => ?_, fun _ => p.ref.restrict_of_mem hpa hpb⟩
    obtain ⟨_, ⟨r1, r2⟩, _⟩ := mem_avgWeights1 _ _ _ _ hiw
    obtain ⟨_, ⟨c1, c2⟩, _⟩ := mem_avgWeights1 _ _ _ _ hkv
    exact p.src.restrict_of_mem (overlap_in_expand p.Sr p.Rr hSr hRr pinR a hpa iw.1 r1 r2)
      (overlap_in_expand p.Sc p.Rc hSc hRc pinC b hpb kv.1 c1 c2)
  · have e1 := srcDs_none_outside (p.restrictTo pinR pinC) hSr hSc hRr hRc a b hab
    have e2 := srcDs_none_outside p hSr hSc hRr hRc a b hab
    exact ⟨e1.trans e2.symm, fun hne => absurd e2 hne⟩

/-- the fitted parameters agree at a reference pixel whose kernel window, clipped to the processing window, lies inside the
    block's reference window -/
theorem restrict_params_agree (p : ImagePair) (hSr : 0 < p.Sr.p) (hSc : 0 < p.Sc.p) (hRr : 0 < p.Rr.p)
    (hRc : 0 < p.Rc.p) (pinR pinC : Win1) (model : Model) (kh kw : Nat) (n0 n1 : Rat) (i j : Int)
    (Hr : ∀ a : Int, i - ((kh / 2 : Nat) : Int) ≤ a ∧ a ≤ i + ((kh / 2 : Nat) : Int) →
      ((refWin p.Sr p.Rr).lo ≤ a ∧ a < (refWin p.Sr p.Rr).hi) → (pinR.lo ≤ a ∧ a < pinR.hi))
    (Hc : ∀ b : Int, j - ((kw / 2 : Nat) : Int) ≤ b ∧ b ≤ j + ((kw / 2 : Nat) : Int) →
      ((refWin p.Sc p.Rc).lo ≤ b ∧ b < (refWin p.Sc p.Rc).hi) → (pinC.lo ≤ b ∧ b < pinC.hi)) :
    (p.restrictTo pinR pinC).params model kh kw n0 n1 i j = p.params model kh kw n0 n1 i j :=
  imgParams_congr _ _ _ _ _ _ model kh kw n0 n1 i j fun a b _ _ ha hb =>
    restrict_point_agree p hSr hSc hRr hRc pinR pinC a b fun ra rb => ⟨Hr a ha ra, Hc b hb rb⟩

/-! ### where the gain model has parameters -/

/-- gain model on a positive source, kernel at least 1 x 1: inside the reference image a pixel carries parameters exactly
    where the averaged source and the reference are valid -/
theorem params_gain_isSome (p : ImagePair) (hposS : ∀ r c x, p.src r c = some x → 0 < x)
    (kh kw : Nat) (hkh : 0 < kh) (hkw : 0 < kw) (n0 n1 : Rat) (i j : Int)
    (hin : 0 ≤ i ∧ i < p.Rr.n ∧ 0 ≤ j ∧ j < p.Rc.n) :
    (p.params .gain kh kw n0 n1 i j).isSome = ((p.srcDs i j).isSome && (p.ref i j).isSome) :=
  imgParams_gain_isSome _ _ _ _ (fun a b v => avg2_pos p.Sr p.Sc p.Rr p.Rc p.src hposS a b v) kh kw hkh hkw n0 n1 i j hin

/-- the averaged source is valid at the reference pixel under the centre of a valid pixel of the source image -/
theorem srcDs_isSome_under (p : ImagePair) (hSr : 0 < p.Sr.p) (hSc : 0 < p.Sc.p) (hRr : 0 < p.Rr.p) (hRc : 0 < p.Rc.p)
    (r c : Int) (hr : 0 ≤ r ∧ r < p.Sr.n) (hc : 0 ≤ c ∧ c < p.Sc.n) (hx : (p.src r c).isSome = true) :
    (p.srcDs (nearestIdx p.Rr p.Sr r) (nearestIdx p.Rc p.Sc c)).isSome = true := by
  obtain ⟨wr, hwr⟩ := exists_mem_avgWeights1 p.Sr p.Rr hSr hRr _ r hr (nearest_overlaps p.Rr p.Sr hRr hSr r).symm
  obtain ⟨wc, hwc⟩ := exists_mem_avgWeights1 p.Sc p.Rc hSc hRc _ c hc (nearest_overlaps p.Rc p.Sc hRc hSc c).symm
  exact avg2_isSome p.Sr p.Sc p.Rr p.Rc p.src _ _ r c wr wc hwr hwc hx

/-! ### the pipeline for an arbitrary up-sampling method -/

/-- the reference-grid pipeline with `U` bringing the two parameter images to the source grid -/
def ImagePair.correctedWith (p : ImagePair) (U : ImgO → Int → Int → Option Rat) (model : Model) (kh kw : Nat) (n0 n1 : Rat)
    (r c : Int) : Option Rat :=
  match p.src r c with
  | none => none
  | some x =>
    match U (p.gainImg model kh kw n0 n1) r c, U (p.offsetImg model kh kw n0 n1) r c with
    | some g, some o => some (g * x + o)
    | _, _ => none

theorem ImagePair.corrected_eq_with (p : ImagePair) (model : Model) (kh kw : Nat) (n0 n1 : Rat) (ups : Resampling) :
    p.corrected model kh kw n0 n1 ups = p.correctedWith (resample2 ups p.Rr p.Rc p.Sr p.Sc) model kh kw n0 n1 := rfl

/-- two pairs whose parameters agree on the pixels `U` reads give a source pixel they share the same corrected value -/
theorem correctedWith_congr (p q : ImagePair) (U : ImgO → Int → Int → Option Rat) (model : Model) (kh kw : Nat)
    (n0 n1 : Rat) (r c : Int) (hsrc : q.src r c = p.src r c) (S : Int → Int → Prop)
    (hU : ∀ f g : ImgO, (∀ a b, S a b → f a b = g a b) → U f r c = U g r c)
    (hpar : ∀ a b, S a b → q.params model kh kw n0 n1 a b = p.params model kh kw n0 n1 a b) :
    q.correctedWith U model kh kw n0 n1 r c = p.correctedWith U model kh kw n0 n1 r c := by
  unfold ImagePair.correctedWith
  rw [hsrc, hU (q.gainImg model kh kw n0 n1) (p.gainImg model kh kw n0 n1) fun a b hab => by
      unfold ImagePair.gainImg; rw [hpar a b hab],
    hU (q.offsetImg model kh kw n0 n1) (p.offsetImg model kh kw n0 n1) fun a b hab => by
      unfold ImagePair.offsetImg; rw [hpar a b hab]]

/-- when `U` is valid exactly where the pixel `(i, j)` of its argument is: a corrected pixel is valid iff the source pixel is
    and `(i, j)` carries parameters -/
theorem correctedWith_isSome (p : ImagePair) (U : ImgO → Int → Int → Option Rat) (model : Model) (kh kw : Nat)
    (n0 n1 : Rat) (r c i j : Int) (hU : ∀ f : ImgO, (U f r c).isSome = (f i j).isSome) :
    (p.correctedWith U model kh kw n0 n1 r c).isSome =
      ((p.src r c).isSome && (p.params model kh kw n0 n1 i j).isSome) := by
  have hg := hU (p.gainImg model kh kw n0 n1)
  have ho := hU (p.offsetImg model kh kw n0 n1)
  unfold ImagePair.gainImg at hg
  unfold ImagePair.offsetImg at ho
  rw [Option.isSome_map] at hg ho
  unfold ImagePair.correctedWith
  cases p.src r c with
  | none => rfl
  | some x =>
    have key : ∀ (g o : Option ℚ) (v : Bool), g.isSome = v → o.isSome = v →
        (match g, o with
          | some g, some o => some (g * x + o)
          | _, _ => none).isSome = (true && v) := by
      intro g o v hg ho
      cases g <;> cases o <;> simp_all
    exact key _ _ _ hg ho

/-- when `U` keeps constants: if every existing parameter pair is `(a, b)`, every valid corrected pixel is `a·x + b` for its
    own source value -/
theorem correctedWith_of_const_params (p : ImagePair) (U : ImgO → Int → Int → Option Rat) (model : Model) (kh kw : Nat)
    (n0 n1 : ℚ) (r c : Int)
    (hU : ∀ (f : ImgO) (k : ℚ), (∀ i j v, f i j = some v → v = k) → ∀ g, U f r c = some g → g = k) (a b : ℚ)
    (hp : ∀ i j prm, p.params model kh kw n0 n1 i j = some prm → prm.gain = a ∧ prm.offset = b)
    (x v : ℚ) (hx : p.src r c = some x) (hv : p.correctedWith U model kh kw n0 n1 r c = some v) :
    v = a * x + b := by
  unfold ImagePair.correctedWith at hv
  rw [hx] at hv
  simp only at hv
  split at hv
  · rename_i g o hg ho
    rw [← Option.some.inj hv,
      hU _ a (fun i j w hw => by
        obtain ⟨prm, hprm, rfl⟩ := Option.map_eq_some_iff.mp hw
        exact (hp i j prm hprm).1) g hg,
      hU _ b (fun i j w hw => by
        obtain ⟨prm, hprm, rfl⟩ := Option.map_eq_some_iff.mp hw
        exact (hp i j prm hprm).2) o ho]
  · cases hv

/-! ### scaling both images -/

/-- the pair with its source scaled by `s` and its reference by `t` -/
def ImagePair.scale (p : ImagePair) (s t : ℚ) : ImagePair := { p with src := p.src.scale s, ref := p.ref.scale t }

theorem params_scale (p : ImagePair) (s t : ℚ) (hs : 0 < s) (ht : 0 < t) (model : Model) (hm : model ≠ .gainBlkOffset)
    (kh kw : Nat) (n0 n1 : ℚ) (i j : Int) :
    (p.scale s t).params model kh kw n0 n1 i j = (p.params model kh kw n0 n1 i j).map (scaleParams s t) := by
  have : (p.scale s t).srcDs = p.srcDs.scale s := funext fun i => funext fun j => avg2_scale p.Sr p.Sc p.Rr p.Rc p.src s i j
  rw [ImagePair.params_eq, this]
  exact imgParams_scale _ _ _ _ s t hs ht model hm kh kw n0 n1 i j

/-- when `U` is homogeneous: scaling the source by `s > 0` and the reference by `t > 0` multiplies every corrected pixel by `t`
    and leaves validity unchanged (gain and gain-offset models) -/
theorem correctedWith_scale (p : ImagePair) (U : ImgO → Int → Int → Option Rat) (r c : Int)
    (hU : ∀ (f : ImgO) (k : ℚ), U (f.scale k) r c = (U f r c).map (k * ·))
    (s t : ℚ) (hs : 0 < s) (ht : 0 < t) (model : Model) (hm : model ≠ .gainBlkOffset) (kh kw : Nat) (n0 n1 : ℚ) :
    (p.scale s t).correctedWith U model kh kw n0 n1 r c = (p.correctedWith U model kh kw n0 n1 r c).map (t * ·) := by
  have hg : (p.scale s t).gainImg model kh kw n0 n1 = (p.gainImg model kh kw n0 n1).scale (t / s) := by
    funext i j
    simp only [ImagePair.gainImg, ImgO.scale, params_scale p s t hs ht model hm, Option.map_map]
    rfl
  have ho : (p.scale s t).offsetImg model kh kw n0 n1 = (p.offsetImg model kh kw n0 n1).scale t := by
    funext i j
    simp only [ImagePair.offsetImg, ImgO.scale, params_scale p s t hs ht model hm, Option.map_map]
    rfl
  unfold ImagePair.correctedWith
  rw [hg, ho, hU, hU]
  show (match (p.src r c).map (s * ·) with
    | none => none
    | some x => _) = _
  cases p.src r c with
  | none => rfl
  | some x =>
    cases U (p.gainImg model kh kw n0 n1) r c with
    | none => rfl
    | some g =>
      cases U (p.offsetImg model kh kw n0 n1) r c with
      | none => rfl
      | some o =>
        simp only [Option.map_some, Option.some.injEq]
        have hs' := ne_of_gt hs
        field_simp

/-! ### `nearest` / `bilinear` -/

/-- block transparency for abstract windows: along each axis `pin` covers `pout` up to the kernel radius plus the one pixel
    the 2 x 2 support can reach beyond the pixel under the centre -/
theorem block_transparent_core (p : ImagePair) (hSr : 0 < p.Sr.p) (hSc : 0 < p.Sc.p) (hRr : 0 < p.Rr.p)
    (hRc : 0 < p.Rc.p) (model : Model) (kh kw : Nat) (n0 n1 : Rat) (ups : Resampling) (hups : ups ≠ .average)
    (pinR poutR pinC poutC : Win1)
    (hR : Covers (refWin p.Sr p.Rr) pinR poutR (((kh / 2 : Nat) : Int) + 1))
    (hC : Covers (refWin p.Sc p.Rc) pinC poutC (((kw / 2 : Nat) : Int) + 1))
    (r c : Int) (hr : (roundTo p.Rr p.Sr poutR).lo ≤ r ∧ r < (roundTo p.Rr p.Sr poutR).hi)
    (hc : (roundTo p.Rc p.Sc poutC).lo ≤ c ∧ c < (roundTo p.Rc p.Sc poutC).hi) :
    (p.restrictTo pinR pinC).corrected model kh kw n0 n1 ups r c = p.corrected model kh kw n0 n1 ups r c := by
  have sr := (support_of_mem_roundTo p.Sr p.Rr hSr hRr poutR r hr).2
  have sc := (support_of_mem_roundTo p.Sc p.Rc hSc hRc poutC c hc).2
  rw [ImagePair.corrected_eq_with, ImagePair.corrected_eq_with]
  exact correctedWith_congr p (p.restrictTo pinR pinC) _ model kh kw n0 n1 r c
    (p.src.restrict_of_mem (round_subset_expand p.Rr p.Sr hRr hSr pinR poutR hR.out_sub r hr)
      (round_subset_expand p.Rc p.Sc hRc hSc pinC poutC hC.out_sub c hc))
    (fun a b => (bilinIdx p.Rr p.Sr r ≤ a ∧ a ≤ bilinIdx p.Rr p.Sr r + 1) ∧ (bilinIdx p.Rc p.Sc c ≤ b ∧ b ≤ bilinIdx p.Rc p.Sc c + 1))
    (fun f g h => resample2_congr ups hups _ _ _ _ hRr hRc f g r c fun a b ha hb => h a b ⟨ha, hb⟩)
    fun a b hab => restrict_params_agree p hSr hSc hRr hRc pinR pinC model kh kw n0 n1 a b
      (fun x hx => hR.near x (by omega)) (fun y hy => hC.near y (by omega))

end Homonim
