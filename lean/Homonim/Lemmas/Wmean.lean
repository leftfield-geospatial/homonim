/-
  The safe quotient `divO`, sums over a list, and the normalised weighted mean `wmean` / `upsampleParams` built from
  them: when they exist, what they return, and how they behave when numerator and denominator are rescaled.
-/
import Homonim.Model.Resample
import Mathlib.Tactic.Ring
import Mathlib.Algebra.BigOperators.Ring.List
import Mathlib.Algebra.Order.BigOperators.Group.List
import Mathlib.Algebra.Order.Field.Basic
import Mathlib.Algebra.Order.Ring.Rat

namespace Homonim

/-! ### `divO` -/

theorem divO_of_ne {a b : ℚ} (hb : b ≠ 0) : divO a b = some (a / b) := if_neg hb

theorem divO_zero (a : ℚ) : divO a 0 = none := if_pos rfl

theorem divO_eq_none_iff {a b : ℚ} : divO a b = none ↔ b = 0 := by
  by_cases hb : b = 0
  · simp [hb, divO_zero]
  · simp [hb, divO_of_ne]

theorem divO_eq_some_iff {a b q : ℚ} : divO a b = some q ↔ b ≠ 0 ∧ a / b = q := by
  by_cases hb : b = 0
  · simp [hb, divO_zero]
  · simp [hb, divO_of_ne]

/-- Homogeneity: if the denominator is multiplied by `v ≠ 0` and the numerator by `k·v`, the quotient is multiplied by
    `k` and exists in the same cases.  Stated with equations as hypotheses so that `x`, `y` are read off the goal. -/
theorem divO_scale {x y x' y' k v : ℚ} (hv : v ≠ 0) (hx : x' = k * v * x) (hy : y' = v * y) :
    divO x' y' = (divO x y).map (k * ·) := by
  subst hx hy
  by_cases hy : y = 0
  · rw [hy, mul_zero, divO_zero, divO_zero]; rfl
  · rw [divO_of_ne hy, divO_of_ne (mul_ne_zero hv hy), Option.map_some, mul_right_comm, mul_comm v,
      mul_div_mul_right _ _ hv, mul_div_assoc]

/-- a common factor `v ≠ 0` of numerator and denominator cancels -/
theorem divO_mul_cancel {x y x' y' v : ℚ} (hv : v ≠ 0) (hx : x' = v * x) (hy : y' = v * y) : divO x' y' = divO x y :=
  (divO_scale (k := 1) hv (by rw [hx, one_mul]) hy).trans (by simp)

/-! ### sums over a list -/

theorem sum_map_eq_mul {α : Type} (l : List α) {f g : α → ℚ} {k : ℚ} (h : ∀ x ∈ l, f x = k * g x) :
    (l.map f).sum = k * (l.map g).sum := by
  rw [List.map_congr_left h, List.sum_map_mul_left]

theorem sum_map_eq_mul_add {α : Type} (l : List α) {f g h : α → ℚ} {a b : ℚ}
    (H : ∀ x ∈ l, f x = a * g x + b * h x) : (l.map f).sum = a * (l.map g).sum + b * (l.map h).sum := by
  rw [List.map_congr_left H, List.sum_map_add, List.sum_map_mul_left, List.sum_map_mul_left]

/-- non-negative weights, one of them positive, do not cancel -/
theorem sum_map_pos {α : Type} (l : List α) {w : α → ℚ} (hw : ∀ p ∈ l, 0 ≤ w p) (hpos : ∃ p ∈ l, 0 < w p) :
    0 < (l.map w).sum := by
  obtain ⟨p, hp, hpp⟩ := hpos
  exact hpp.trans_le (List.single_le_sum (List.forall_mem_map.2 hw) _ (List.mem_map_of_mem hp))

theorem sum_map_pos_of_pos {α : Type} (l : List α) {w : α → ℚ} (hne : l ≠ []) (hw : ∀ p ∈ l, 0 < w p) :
    0 < (l.map w).sum :=
  List.sum_pos _ (List.forall_mem_map.2 hw) (mt List.map_eq_nil_iff.1 hne)

/-! ### `wmean` -/

theorem wmean_map {α : Type} (l : List α) (w v : α → ℚ) :
    wmean (l.map fun p => (w p, v p)) = divO (l.map fun p => w p * v p).sum (l.map w).sum := by
  simp only [wmean, List.map_map, Function.comp_def]

theorem wmean_eq_none_iff {l : List (ℚ × ℚ)} : wmean l = none ↔ (l.map (·.1)).sum = 0 := divO_eq_none_iff

theorem wmean_eq_some_iff {l : List (ℚ × ℚ)} {v : ℚ} :
    wmean l = some v ↔ (l.map (·.1)).sum ≠ 0 ∧ (l.map fun p => p.1 * p.2).sum / (l.map (·.1)).sum = v :=
  divO_eq_some_iff

theorem wmean_isSome_iff {l : List (ℚ × ℚ)} : (wmean l).isSome = true ↔ (l.map (·.1)).sum ≠ 0 := by
  rw [← Option.ne_none_iff_isSome, Ne, wmean_eq_none_iff]

/-- the mean of a constant is that constant, wherever the mean exists -/
theorem wmean_eq_some_iff_of_const {k : ℚ} {l : List (ℚ × ℚ)} (hk : ∀ p ∈ l, p.2 = k) {v : ℚ} :
    wmean l = some v ↔ (l.map (·.1)).sum ≠ 0 ∧ v = k := by
  rw [wmean_eq_some_iff,
    sum_map_eq_mul (f := fun p => p.1 * p.2) (g := (·.1)) (k := k) l fun p hp => by rw [hk p hp, mul_comm]]
  refine and_congr_right fun hw => ?_
  rw [mul_div_assoc, div_self hw, mul_one, eq_comm]

/-- the mean commutes with an affine map of the values, and exists in the same cases -/
theorem wmean_map_affine (a b : ℚ) (l : List (ℚ × ℚ)) :
    wmean (l.map fun p => (p.1, a * p.2 + b)) = (wmean l).map (a * · + b) := by
  rw [wmean_map, wmean, sum_map_eq_mul_add l fun p _ => (by ring : p.1 * (a * p.2 + b) = a * (p.1 * p.2) + b * p.1)]
  by_cases hw : (l.map fun p => p.1).sum = 0
  · rw [hw, divO_zero, divO_zero]; rfl
  · rw [divO_of_ne hw, divO_of_ne hw, Option.map_some, add_div, mul_div_assoc, mul_div_cancel_right₀ _ hw]

theorem wmean_map_mul (k : ℚ) (l : List (ℚ × ℚ)) :
    wmean (l.map fun p => (p.1, k * p.2)) = (wmean l).map (k * ·) := by
  simpa only [add_zero] using wmean_map_affine k 0 l

/-- positive weights and positive values give a positive mean (so kernel sums of the down-sampled source are positive) -/
theorem wmean_pos (l : List (ℚ × ℚ)) (hne : l ≠ []) (hw : ∀ p ∈ l, 0 < p.1) (hv : ∀ p ∈ l, 0 < p.2) (v : ℚ)
    (h : wmean l = some v) : 0 < v := by
  obtain ⟨-, rfl⟩ := wmean_eq_some_iff.1 h
  exact div_pos (sum_map_pos_of_pos l hne fun p hp => mul_pos (hw p hp) (hv p hp)) (sum_map_pos_of_pos l hne hw)

/-- gain and offset are resampled with the same weights, so they exist together -/
theorem upsampleParams_isSome_iff (l : List (ℚ × Params)) :
    (upsampleParams l).isSome = true ↔ (l.map (·.1)).sum ≠ 0 := by
  unfold upsampleParams
  rw [wmean_map, wmean_map]
  by_cases hW : (l.map (·.1)).sum = 0
  · simp [hW, divO_zero]
  · simp [hW, divO_of_ne]

end Homonim
