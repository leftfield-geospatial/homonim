/-
  Lemmas for the block fan-out machine (Model/Sched.lean): the block program as tables, a case view of `step`, and
  the two invariants of runs - who owns which lock (`SInv`), and where every submitted job and every completed write
  is (`JInv`) - from which Props/C04.lean and Props/C09.lean read their theorems off.
-/
import Homonim.Model.Sched
-- with this module `List.sum` over ℕ (`remaining`, Props/C04.lean) takes its `Zero ℕ` from `MulZeroClass ℕ`, as it does in
-- every file that imports Mathlib's algebra; without it the same source elaborates to a different (equal) term
import Mathlib.Algebra.GroupWithZero.Nat
import Mathlib.Data.List.Basic
import Mathlib.Data.List.Nodup
import Mathlib.Data.List.Perm.Basic

namespace Homonim

/-! ### the block program -/

def allRes : List Res := [.S, .R, .C, .P]
theorem allRes_complete (r : Res) : r ∈ allRes := by cases r <;> decide

theorem prog_length_le (param : Bool) : (prog param).length ≤ 14 := by cases param <;> decide

theorem instrAt_lt_len {param : Bool} {pc : Nat} {i : Instr} (h : instrAt param pc = some i) :
    pc < (prog param).length := (List.getElem?_eq_some_iff.mp h).1

theorem instrAt_lt {param : Bool} {pc : Nat} {i : Instr} (h : instrAt param pc = some i) : pc < 14 :=
  Nat.lt_of_lt_of_le (instrAt_lt_len h) (prog_length_le param)

theorem instrAt_none_iff {param : Bool} {pc : Nat} : instrAt param pc = none ↔ (prog param).length ≤ pc :=
  List.getElem?_eq_none_iff

theorem holdsAt_iff {param : Bool} {pc : Nat} {r : Res} :
    holdsAt param pc r = true ↔ instrAt param pc = some (.io r) ∨ instrAt param pc = some (.rel r) := by
  unfold holdsAt
  split <;> simp_all [eq_comm]

/-- the lock discipline of the program: what is held after a step is what its instruction says - `acq r` and `io r`
    are followed by a position inside the critical section of `r`, `rel` and `compute` by one outside every section -/
theorem holdsAt_succ : ∀ param : Bool, ∀ pc, pc < 14 → ∀ r ∈ allRes,
    holdsAt param (pc + 1) r =
      match instrAt param pc with
      | some (.acq r') | some (.io r') => decide (r = r')
      | _ => false := by
  decide +kernel

/-- what a thread holds after and before the instruction it is at -/
theorem holdsAt_of_instrAt {param : Bool} {pc : Nat} {i : Instr} (r : Res) : instrAt param pc = some i →
    holdsAt param (pc + 1) r = (match i with | .acq r' | .io r' => decide (r = r') | _ => false) ∧
    holdsAt param pc r = (match i with | .io r' | .rel r' => decide (r = r') | _ => false) := by
  intro h
  cases i <;> exact ⟨by rw [holdsAt_succ param pc (instrAt_lt h) r (allRes_complete r), h], by rw [holdsAt, h]⟩

theorem local_acq : ∀ param : Bool, ∀ pc, pc < 14 → ∀ r ∈ allRes, ∀ r' ∈ allRes,
    instrAt param pc = some (.acq r) → (holdsAt param (pc+1) r' = decide (r' = r)) ∧ holdsAt param pc r' = false :=
  fun _ _ _ _ _ r' _ => holdsAt_of_instrAt r'
theorem local_io : ∀ param : Bool, ∀ pc, pc < 14 → ∀ r ∈ allRes, ∀ r' ∈ allRes,
    instrAt param pc = some (.io r) →
      holdsAt param (pc+1) r' = decide (r' = r) ∧ holdsAt param pc r' = decide (r' = r) :=
  fun _ _ _ _ _ r' _ => holdsAt_of_instrAt r'
theorem local_rel : ∀ param : Bool, ∀ pc, pc < 14 → ∀ r ∈ allRes, ∀ r' ∈ allRes,
    instrAt param pc = some (.rel r) → holdsAt param (pc+1) r' = false ∧ holdsAt param pc r' = decide (r' = r) :=
  fun _ _ _ _ _ r' _ => holdsAt_of_instrAt r'
theorem local_compute : ∀ param : Bool, ∀ pc, pc < 14 → ∀ r' ∈ allRes,
    instrAt param pc = some .compute → holdsAt param (pc+1) r' = false ∧ holdsAt param pc r' = false :=
  fun _ _ _ r' _ => holdsAt_of_instrAt r'

theorem holds_end (param : Bool) (pc : Nat) (r : Res) (h : instrAt param pc = none) : holdsAt param pc r = false := by
  simp only [holdsAt, h]
theorem holds_zero (param : Bool) (r : Res) : holdsAt param 0 r = false := by
  cases param <;> rfl

/-- the step at which the program accesses file `r` -/
def ioPc : Res → Nat | .S => 1 | .R => 4 | .C => 9 | .P => 12

theorem instrAt_io_pc {param : Bool} {pc : Nat} {r : Res} (h : instrAt param pc = some (.io r)) : pc = ioPc r :=
  (by decide +kernel : ∀ param : Bool, ∀ pc, pc < 14 → ∀ r ∈ allRes, instrAt param pc = some (.io r) → pc = ioPc r)
    param pc (instrAt_lt h) r (allRes_complete r) h

theorem instrAt_ioC (param : Bool) : instrAt param (ioPc .C) = some (.io .C) := by cases param <;> rfl
theorem instrAt_ioP : instrAt true (ioPc .P) = some (.io .P) := rfl

/-- every file is accessed at most once per block -/
theorem instrAt_io_inj {param : Bool} {pc pc' : Nat} {r : Res} (h : instrAt param pc = some (.io r))
    (h' : instrAt param pc' = some (.io r)) : pc = pc' :=
  (instrAt_io_pc h).trans (instrAt_io_pc h').symm

/-- program positions whose step can raise -/
def Faultable (param : Bool) (pc : Nat) : Prop :=
  (∃ r, instrAt param pc = some (.io r)) ∨ instrAt param pc = some .compute

theorem not_faultable {param : Bool} {pc : Nat} {i : Option Instr} (hi : instrAt param pc = i)
    (h1 : ∀ r, i ≠ some (.io r)) (h2 : i ≠ some .compute) : ¬ Faultable param pc := by
  rintro (⟨r, h⟩ | h)
  exacts [h1 r (hi ▸ h), h2 (hi ▸ h)]


/-! ### case view of `step` -/

/-- what a successful `acq` or `rel` of thread `t` does to the lock owners -/
def Instr.owner (i : Instr) (t : Nat) (o : Res → Option Nat) : Res → Option Nat :=
  match i with
  | .acq r => setOwner o r (some t)
  | .rel r => setOwner o r none
  | _ => o

/-- what a successful `io` of job `j` does to the history of completed writes -/
def Instr.writes (i : Instr) (j : Nat) (ws : List (Nat × Res)) : List (Nat × Res) :=
  match i with
  | .io r => if r = .C ∨ r = .P then ws ++ [(j, r)] else ws
  | _ => ws

theorem Instr.mem_writes {i : Instr} {j : Nat} {ws : List (Nat × Res)} {w : Nat × Res} :
    w ∈ i.writes j ws ↔ w ∈ ws ∨ ∃ r, i = .io r ∧ (r = .C ∨ r = .P) ∧ w = (j, r) := by
  cases i with
  | io r =>
    by_cases hr : r = .C ∨ r = .P
    · simp only [Instr.writes, if_pos hr, List.mem_append, List.mem_singleton]
      exact or_congr_right ⟨fun e => ⟨r, rfl, hr, e⟩, by rintro ⟨_, ⟨⟩, _, e⟩; exact e⟩
    · simp only [Instr.writes, if_neg hr]
      exact ⟨Or.inl, by rintro (h | ⟨_, ⟨⟩, hr', _⟩); exacts [h, absurd hr' hr]⟩
  | _ => exact ⟨Or.inl, by rintro (h | ⟨_, ⟨⟩, _⟩); exact h⟩

theorem Instr.writes_nodup {i : Instr} {j : Nat} {ws : List (Nat × Res)} (h : ws.Nodup)
    (hnew : ∀ r, i = .io r → (j, r) ∉ ws) : (i.writes j ws).Nodup := by
  cases i with
  | io r =>
    simp only [Instr.writes]
    split
    · exact h.append (List.nodup_singleton _) (List.disjoint_singleton.mpr (hnew r rfl))
    · exact h
  | _ => exact h

/-- The successful steps of thread `t`: it takes a job, executes an instruction, or ends its job - by returning after
    the last instruction, or by raising in an `io` or `compute` step (`res`), and then holding no lock: the exception
    leaves the `with lock:` block. -/
inductive StepRel (param : Bool) (faults : Faults) (s : SState) (t : Nat) : SState → Prop
  | take {j : Nat} {rest : List Nat} (hth : s.threads[t]? = some none) (hq : s.queue = j :: rest) :
      StepRel param faults s t { s with queue := rest, threads := s.threads.set t (some ⟨j, 0⟩) }
  | adv {ts : TState} {i : Instr} (hth : s.threads[t]? = some (some ts)) (hi : instrAt param ts.pc = some i)
      (hfree : ∀ r, i = .acq r → s.owner r = none) (hnf : Faultable param ts.pc → faults ts.job ts.pc = false) :
      StepRel param faults s t
        { s with threads := s.threads.set t (some ⟨ts.job, ts.pc + 1⟩), owner := i.owner t s.owner,
                 writes := i.writes ts.job s.writes }
  | stop {ts : TState} {res : Option Nat} {o : Res → Option Nat} (hth : s.threads[t]? = some (some ts))
      (hres : res = none ∧ instrAt param ts.pc = none ∨
        res = some ts.pc ∧ faults ts.job ts.pc = true ∧ Faultable param ts.pc)
      (ho : ∀ r, o r = if holdsAt param ts.pc r then none else s.owner r) :
      StepRel param faults s t
        { s with threads := s.threads.set t none, owner := o, done := s.done ++ [(ts.job, res)] }

theorem step_cases {param : Bool} {faults : Faults} {s s' : SState} {t : Nat}
    (h : step param faults s t = some s') : StepRel param faults s t s' := by
  revert h
  -- the enabled branches of `step`, in its order: take, return, acq, rel, io (raising, not), compute (raising, not)
  fun_cases step param faults s t <;> rintro ⟨⟩
  · exact .take ‹_› ‹_›
  · rename_i hth hi
    exact .stop hth (.inl ⟨rfl, hi⟩) fun r => by rw [holds_end _ _ _ hi]; rfl
  · rename_i hth r hi hfree
    exact .adv hth hi (by rintro _ ⟨⟩; exact Option.not_isSome_iff_eq_none.mp hfree)
      (absurd · (not_faultable hi nofun nofun))
  · rename_i hth r hi
    exact .adv hth hi nofun (absurd · (not_faultable hi nofun nofun))
  · rename_i hth r hi hf
    exact .stop hth (.inr ⟨rfl, hf, .inl ⟨r, hi⟩⟩) fun r' => by simp only [holdsAt, hi, setOwner, decide_eq_true_eq]
  · rename_i hth r hi hf
    exact .adv hth hi nofun fun _ => Bool.eq_false_iff.mpr hf
  · rename_i hth hi hf
    exact .stop hth (.inr ⟨rfl, hf, .inr hi⟩) fun r => by simp only [holdsAt, hi]; rfl
  · rename_i hth hi hf
    exact .adv hth hi nofun fun _ => Bool.eq_false_iff.mpr hf

/-- conversely, a running thread is enabled unless it waits for a lock, -/
theorem step_isSome_of_running {param : Bool} {faults : Faults} {s : SState} {t : Nat} {ts : TState}
    (hth : s.threads[t]? = some (some ts))
    (hacq : ∀ r, instrAt param ts.pc = some (.acq r) → s.owner r = none) :
    (step param faults s t).isSome = true := by
  unfold step
  rw [hth]
  dsimp only
  split
  · rfl
  · rename_i r hi
    rw [hacq r hi]; rfl
  · rfl
  · split <;> rfl
  · split <;> rfl

/-- and an idle thread is enabled while jobs are queued -/
theorem step_isSome_of_idle {param : Bool} {faults : Faults} {s : SState} {t : Nat}
    (hth : s.threads[t]? = some none) (hq : s.queue ≠ []) :
    (step param faults s t).isSome = true := by
  unfold step
  rw [hth]
  dsimp only
  split
  · rename_i h; exact absurd h hq
  · rfl

/-- every state a schedule reaches from the initial state has a property that the initial state has and every step
    preserves (the hypothesis is `Reachable` of Props/C04.lean, unfolded) -/
theorem reach_induct {param : Bool} {faults : Faults} {jobs : List Nat} {T : Nat} {P : SState → Prop}
    (h0 : P (initState jobs T)) (hstep : ∀ {s t s'}, P s → step param faults s t = some s' → P s') {s : SState}
    (h : ∃ sched : List Nat, s = runSched param faults (initState jobs T) sched) : P s := by
  obtain ⟨sched, rfl⟩ := h
  generalize initState jobs T = s0 at h0
  induction sched generalizing s0 with
  | nil => exact h0
  | cons t ts ih =>
    unfold runSched
    split
    · exact ih _ (hstep h0 ‹_›)
    · exact ih _ h0


/-! ### lists -/

theorem get_set {α : Type} (l : List α) (t t' : Nat) (v : α) (ht : t < l.length) :
    (l.set t v)[t']? = if t' = t then some v else l[t']? := by
  rw [List.getElem?_set, if_pos ht]
  exact if_congr eq_comm rfl rfl

theorem lt_of_get {α : Type} {l : List α} {t : Nat} {a : α} (h : l[t]? = some a) : t < l.length :=
  (List.getElem?_eq_some_iff.mp h).1

/-- a running thread is the one that steps, or keeps its state whatever that one's new state is -/
theorem running_cases {l : List (Option TState)} {t t' : Nat} {th : Option TState} {ts' : TState}
    (hth : l[t]? = some th) (ht' : l[t']? = some (some ts')) :
    (t' = t ∧ th = some ts') ∨ (t' ≠ t ∧ ∀ v, (l.set t v)[t']? = some (some ts')) := by
  by_cases htt : t' = t
  · subst htt
    exact .inl ⟨rfl, Option.some.inj (hth ▸ ht')⟩
  · exact .inr ⟨htt, fun v => by rw [List.getElem?_set_ne (Ne.symm htt)]; exact ht'⟩

/-- what holds of all running threads survives a step of thread `t` if it holds of `t`'s new state -/
theorem forall_running_set {l : List (Option TState)} {t : Nat} {v : Option TState} {Q : TState → Prop}
    (hl : ∀ (t' : Nat) (ts' : TState), l[t']? = some (some ts') → Q ts') (hv : ∀ ts', v = some ts' → Q ts')
    (t' : Nat) (ts' : TState) (h : (l.set t v)[t']? = some (some ts')) : Q ts' := by
  rw [List.getElem?_set] at h
  split at h
  · split at h
    · exact hv _ (Option.some.inj h)
    · cases h
  · exact hl _ _ h

theorem sum_map_set {α : Type} (f : α → Nat) (l : List α) (t : Nat) (a v : α) (h : l[t]? = some a) :
    ((l.set t v).map f).sum + f a = (l.map f).sum + f v := by
  induction l generalizing t with
  | nil => cases h
  | cons x xs ih =>
    cases t with
    | zero =>
      cases h
      simp only [List.set_cons_zero, List.map_cons, List.sum_cons]; omega
    | succ n =>
      have := ih n h
      simp only [List.set_cons_succ, List.map_cons, List.sum_cons]; omega

/-- the first components paired with `b`: the blocks written to one file, in the history of completed writes -/
theorem mem_map_fst_filter_snd {α β : Type} [DecidableEq β] {l : List (α × β)} {a : α} {b : β} :
    a ∈ (l.filter fun w => w.2 = b).map Prod.fst ↔ (a, b) ∈ l := by
  constructor
  · intro h
    obtain ⟨⟨a', b'⟩, hm, rfl⟩ := List.mem_map.mp h
    obtain ⟨hm', hb⟩ := List.mem_filter.mp hm
    cases of_decide_eq_true hb
    exact hm'
  · exact fun h => List.mem_map.mpr ⟨(a, b), List.mem_filter.mpr ⟨h, decide_eq_true rfl⟩, rfl⟩

theorem nodup_map_fst_filter_snd {α β : Type} [DecidableEq β] {l : List (α × β)} (b : β) (h : l.Nodup) :
    ((l.filter fun w => w.2 = b).map Prod.fst).Nodup := by
  refine List.Nodup.map_on ?_ (h.filter _)
  rintro ⟨a1, b1⟩ h1 ⟨a2, b2⟩ h2 rfl
  cases of_decide_eq_true (List.mem_filter.mp h1).2
  cases of_decide_eq_true (List.mem_filter.mp h2).2
  rfl


/-! ### final states and outcomes -/

theorem final_iff {s : SState} : s.final = true ↔ s.queue = [] ∧ ∀ th ∈ s.threads, th = none := by
  unfold SState.final
  rw [Bool.and_eq_true, List.isEmpty_iff, List.all_eq_true]
  exact and_congr_right' (forall₂_congr fun _ _ => Option.isNone_iff_eq_none)

theorem outcome_ok_iff {s : SState} : s.outcome = .ok ↔ ∀ d ∈ s.done, d.2 = none := by
  unfold SState.outcome
  rw [ite_eq_right_iff, List.any_eq_true]
  simp only [reduceCtorEq, imp_false, not_exists, not_and, Option.isSome_iff_ne_none, ne_eq, not_not]

/-- no thread runs in the initial state -/
theorem initState_idle {jobs : List Nat} {T t : Nat} {ts : TState} :
    (initState jobs T).threads[t]? ≠ some (some ts) := fun h =>
  nomatch (List.mem_replicate.mp (List.mem_of_getElem? h)).2


/-! ### the lock invariant -/

def thHolds (param : Bool) (th : Option TState) (r : Res) : Bool :=
  match th with | none => false | some ts => holdsAt param ts.pc r

/-- the lock invariant: a lock's owner is exactly the thread that is between `acq` and `rel` of that lock -/
def SInv (param : Bool) (s : SState) : Prop :=
  ∀ r t, s.owner r = some t ↔ ∃ ts, s.threads[t]? = some (some ts) ∧ holdsAt param ts.pc r = true

theorem thHolds_join {param : Bool} {r : Res} {o : Option (Option TState)} :
    thHolds param o.join r = true ↔ ∃ ts, o = some (some ts) ∧ holdsAt param ts.pc r = true := by
  rcases o with _ | _ | ts
  · exact iff_of_false nofun (by rintro ⟨_, ⟨⟩, _⟩)
  · exact iff_of_false nofun (by rintro ⟨_, ⟨⟩, _⟩)
  · exact ⟨fun h => ⟨ts, rfl, h⟩, by rintro ⟨_, ⟨⟩, h⟩; exact h⟩

theorem join_get_set {α : Type} {l : List (Option α)} {t : Nat} {a : Option α} (h : l[t]? = some a) (t' : Nat)
    (v : Option α) : (l.set t v)[t']?.join = if t' = t then v else l[t']?.join := by
  rw [get_set _ _ _ _ (lt_of_get h)]
  split <;> rfl

/-- A step of thread `t` from `th` to `v` keeps the invariant if the owners follow what `t` holds: a lock it gains was
    free and is now its own, a lock it loses is now free, every other lock keeps its owner. -/
theorem SInv.move {param : Bool} {s s' : SState} {t : Nat} {th v : Option TState} (h : SInv param s)
    (hth : s.threads[t]? = some th) (hth' : s'.threads = s.threads.set t v)
    (hown : ∀ r, match thHolds param th r, thHolds param v r with
      | false, true => s.owner r = none ∧ s'.owner r = some t
      | true, false => s'.owner r = none
      | _, _ => s'.owner r = s.owner r) : SInv param s' := by
  intro r t'
  have h := fun t => (h r t).trans thHolds_join.symm
  have ht := h t
  have hown := hown r
  rw [hth, Option.join_some] at ht
  rw [← thHolds_join, hth', join_get_set hth]
  cases h1 : thHolds param th r <;> cases h2 : thHolds param v r <;> rw [h1, h2] at hown <;> rw [h1] at ht <;> split
  · subst t'; rw [hown, h2]; exact ht
  · rw [hown]; exact h t'
  · subst t'; rw [hown.2, h2]; exact iff_of_true rfl rfl
  · rename_i htt
    rw [hown.2, ← h t', hown.1]; exact iff_of_false (fun e => htt (Option.some.inj e).symm) nofun
  · subst t'; rw [hown, h2]; exact iff_of_false nofun nofun
  · rename_i htt
    rw [hown, ← h t', ht.mpr rfl]; exact iff_of_false nofun (fun e => htt (Option.some.inj e).symm)
  · subst t'; rw [hown, h2]; exact ht
  · rw [hown]; exact h t'

theorem sinv_step {param : Bool} {faults : Faults} {s s' : SState} {t : Nat}
    (h : SInv param s) (hs : step param faults s t = some s') : SInv param s' := by
  cases step_cases hs with
  | take hth hq =>
    refine h.move hth rfl fun r => ?_
    simp only [thHolds, holds_zero]
  | @stop ts res o hth hres ho =>
    refine h.move hth rfl fun r => ?_
    simp only [thHolds, ho r]
    cases holdsAt param ts.pc r <;> rfl
  | @adv ts i hth hi hfree hnf =>
    refine h.move hth rfl fun r => ?_
    obtain ⟨h1, h0⟩ := holdsAt_of_instrAt r hi
    simp only [thHolds, h1, h0]
    cases i with
    | acq r0 => by_cases e : r = r0 <;> simp [e, Instr.owner, setOwner, hfree r0 rfl]
    | rel r0 => by_cases e : r = r0 <;> simp [e, Instr.owner, setOwner]
    | io r0 => by_cases e : r = r0 <;> simp [e, Instr.owner]
    | compute => rfl

theorem sinv_init (param : Bool) (jobs : List Nat) (T : Nat) : SInv param (initState jobs T) := by
  refine fun r t => iff_of_false nofun ?_
  rintro ⟨ts, h, _⟩
  exact initState_idle h

theorem sinv_reach {param : Bool} {faults : Faults} {jobs : List Nat} {T : Nat} {s : SState}
    (h : ∃ sched : List Nat, s = runSched param faults (initState jobs T) sched) : SInv param s :=
  reach_induct (sinv_init param jobs T) sinv_step h

/-- no deadlock: in a state that satisfies the lock invariant and is not final, some thread can step -/
theorem SInv.progress {param : Bool} {faults : Faults} {s : SState} (hl : SInv param s)
    (h0 : 0 < s.threads.length) (hnf : s.final = false) : ∃ t, (step param faults s t).isSome = true := by
  by_cases hrun : ∃ (t : Nat) (ts : TState), s.threads[t]? = some (some ts)
  · obtain ⟨t, ts, hth⟩ := hrun
    by_cases hblock : ∃ r, instrAt param ts.pc = some (.acq r) ∧ s.owner r ≠ none
    · -- blocked on a held lock: its owner is at an `io` or `rel` and can step
      obtain ⟨r, _, ho⟩ := hblock
      obtain ⟨t', ho'⟩ := Option.ne_none_iff_exists'.mp ho
      obtain ⟨ts', hth', hh⟩ := (hl r t').mp ho'
      refine ⟨t', step_isSome_of_running hth' fun r' hi' => ?_⟩
      rcases holdsAt_iff.mp hh with h | h <;> rw [hi'] at h <;> cases h
    · exact ⟨t, step_isSome_of_running hth fun r hi => by_contra fun ho => hblock ⟨r, hi, ho⟩⟩
  · -- all threads idle: the queue is not empty and thread 0 takes a job
    have hall : ∀ th ∈ s.threads, th = none := by
      intro th hmem
      obtain ⟨t, ht⟩ := List.getElem?_of_mem hmem
      cases th with
      | none => rfl
      | some ts => exact absurd ⟨t, ts, ht⟩ hrun
    refine ⟨0, step_isSome_of_idle ?_ fun hq => ?_⟩
    · rw [List.getElem?_eq_getElem h0]
      exact congrArg some (hall _ (List.getElem_mem h0))
    · rw [final_iff.mpr ⟨hq, hall⟩] at hnf; cases hnf


/-! ### counting running jobs -/

def jobInd (j : Nat) : Option TState → Nat
  | none => 0
  | some ts => if ts.job = j then 1 else 0

def runCount (j : Nat) (l : List (Option TState)) : Nat := (l.map (jobInd j)).sum

theorem runCount_set (j : Nat) (l : List (Option TState)) (t : Nat) (a v : Option TState) (h : l[t]? = some a) :
    runCount j (l.set t v) + jobInd j a = runCount j l + jobInd j v :=
  sum_map_set (jobInd j) l t a v h

theorem runCount_pos {l : List (Option TState)} {t : Nat} {ts : TState} (h : l[t]? = some (some ts)) :
    1 ≤ runCount ts.job l := by
  have := runCount_set ts.job l t (some ts) none h
  simp only [jobInd, if_true] at this
  omega

/-- two distinct threads running the same job count twice -/
theorem runCount_two {l : List (Option TState)} {t1 t2 : Nat} {ts1 ts2 : TState} (hne : t1 ≠ t2)
    (h1 : l[t1]? = some (some ts1)) (h2 : l[t2]? = some (some ts2)) (hj : ts1.job = ts2.job) :
    2 ≤ runCount ts1.job l := by
  have a := runCount_set ts1.job l t1 (some ts1) none h1
  have h2' : (l.set t1 none)[t2]? = some (some ts2) := by
    rw [List.getElem?_set_ne hne]; exact h2
  have b := runCount_pos h2'
  rw [← hj] at b
  simp only [jobInd, if_true] at a
  omega

theorem runCount_all_none {l : List (Option TState)} (h : ∀ th ∈ l, th = none) (j : Nat) : runCount j l = 0 :=
  List.sum_eq_zero_iff_forall_eq_nat.mpr fun x hx => by
    obtain ⟨th, hth, rfl⟩ := List.mem_map.mp hx
    rw [h th hth]; rfl


/-! ### the job-accounting invariant -/

/-- step `pc` of job `j` has been executed: it did not raise, and the write it made (if any) is in `ws` -/
def Passed (param : Bool) (faults : Faults) (ws : List (Nat × Res)) (j pc : Nat) : Prop :=
  (Faultable param pc → faults j pc = false) ∧ ∀ r, instrAt param pc = some (.io r) → r = .C ∨ r = .P → (j, r) ∈ ws

theorem Passed.mono {param : Bool} {faults : Faults} {ws ws' : List (Nat × Res)} {j pc : Nat}
    (h : Passed param faults ws j pc) (hsub : ∀ w ∈ ws, w ∈ ws') : Passed param faults ws' j pc :=
  ⟨h.1, fun r hi hr => hsub _ (h.2 r hi hr)⟩

theorem passed_of_none {param : Bool} {faults : Faults} {ws : List (Nat × Res)} {j pc : Nat}
    (hi : instrAt param pc = none) : Passed param faults ws j pc :=
  ⟨(absurd · (not_faultable hi nofun nofun)), fun _ h => nomatch hi ▸ h⟩

/-- job `j` is running beyond step `pc`, or has finished -/
def Beyond (s : SState) (j pc : Nat) : Prop :=
  (∃ (t : Nat) (ts : TState), s.threads[t]? = some (some ts) ∧ ts.job = j ∧ pc < ts.pc) ∨ ∃ res, (j, res) ∈ s.done

/-- and stays so when thread `t` steps from `th` to `v`, if it is so afterwards in case it was `t` that ran it -/
theorem Beyond.move {s s' : SState} {j pc t : Nat} {th v : Option TState} (hb : Beyond s j pc)
    (hth : s.threads[t]? = some th) (hth' : s'.threads = s.threads.set t v) (hd : ∀ d ∈ s.done, d ∈ s'.done)
    (hv : ∀ ts, th = some ts → ts.job = j → pc < ts.pc → Beyond s' j pc) : Beyond s' j pc := by
  rcases hb with ⟨t', ts', ht', hj, hlt⟩ | ⟨res, hres⟩
  · rcases running_cases hth ht' with ⟨_, rfl⟩ | ⟨_, hset⟩
    · exact hv ts' rfl hj hlt
    · exact .inl ⟨t', ts', hth' ▸ hset v, hj, hlt⟩
  · exact .inr ⟨res, hd _ hres⟩

/-- Every submitted job is queued, running or finished (`cnt`).  A running job has passed every step before its `pc`, a
    job that returned has passed every step, a job recorded as failed at `pc` did raise there.  Every completed write
    was made by a job that is beyond that access (`sound`); so with distinct job ids no write is made twice. -/
structure JInv (param : Bool) (faults : Faults) (jobs : List Nat) (T : Nat) (s : SState) : Prop where
  len : s.threads.length = T
  cnt : ∀ j, s.queue.count j + runCount j s.threads + (s.done.map Prod.fst).count j = jobs.count j
  run : ∀ (t : Nat) (ts : TState), s.threads[t]? = some (some ts) →
    ∀ pc < ts.pc, Passed param faults s.writes ts.job pc
  ok : ∀ j, (j, none) ∈ s.done → ∀ pc, Passed param faults s.writes j pc
  failed : ∀ j pc, (j, some pc) ∈ s.done → faults j pc = true ∧ Faultable param pc
  sound : ∀ j r, (j, r) ∈ s.writes → (r = .C ∨ r = .P) ∧ ∃ pc, instrAt param pc = some (.io r) ∧ Beyond s j pc
  nodup : jobs.Nodup → s.writes.Nodup

namespace JInv
variable {param : Bool} {faults : Faults} {jobs : List Nat} {T : Nat} {s : SState}

theorem running_mem (h : JInv param faults jobs T s) {t : Nat} {ts : TState}
    (hth : s.threads[t]? = some (some ts)) : ts.job ∈ jobs := by
  have := h.cnt ts.job
  have := runCount_pos hth
  exact List.count_pos_iff.mp (by omega)

/-- with distinct job ids, a thread about to access a file has not written it: an earlier write by its job would be its
    own, at an earlier step, and every file is accessed once -/
theorem not_written (h : JInv param faults jobs T s) (hnd : jobs.Nodup) {t : Nat} {ts : TState} {r : Res}
    (hth : s.threads[t]? = some (some ts)) (hi : instrAt param ts.pc = some (.io r)) : (ts.job, r) ∉ s.writes := by
  intro hmem
  obtain ⟨_, pc, hpc, hw⟩ := h.sound _ _ hmem
  have hle := List.nodup_iff_count_le_one.mp hnd ts.job
  rw [← h.cnt] at hle
  have := runCount_pos hth
  rcases hw with ⟨t', ts', ht', hj, hlt⟩ | ⟨res, hres⟩
  · rcases running_cases hth ht' with ⟨_, ⟨⟩⟩ | ⟨htt, _⟩
    · exact absurd (instrAt_io_inj hpc hi) (Nat.ne_of_lt hlt)
    · have := runCount_two htt ht' hth hj
      rw [hj] at this
      omega
  · have : 0 < (s.done.map Prod.fst).count ts.job :=
      List.count_pos_iff.mpr (List.mem_map.mpr ⟨_, hres, rfl⟩)
    omega

theorem take (h : JInv param faults jobs T s) {t j : Nat} {rest : List Nat} (hth : s.threads[t]? = some none)
    (hq : s.queue = j :: rest) :
    JInv param faults jobs T { s with queue := rest, threads := s.threads.set t (some ⟨j, 0⟩) } := by
  refine ⟨List.length_set.trans h.len, fun j' => ?_, ?_, h.ok, h.failed, fun j' r hjr => ?_, h.nodup⟩
  · have c := h.cnt j'
    have r := runCount_set j' s.threads t none (some ⟨j, 0⟩) hth
    rw [hq, List.count_cons] at c
    simp only [jobInd, beq_iff_eq] at r c ⊢
    omega
  · exact forall_running_set h.run (by rintro _ ⟨⟩ pc hpc; cases hpc)
  · obtain ⟨hr, pc, hpc, hw⟩ := h.sound j' r hjr
    exact ⟨hr, pc, hpc, hw.move hth rfl (fun _ => id) nofun⟩

theorem adv (h : JInv param faults jobs T s) {t : Nat} {ts : TState} {i : Instr}
    (hth : s.threads[t]? = some (some ts)) (hi : instrAt param ts.pc = some i)
    (hnf : Faultable param ts.pc → faults ts.job ts.pc = false) {o : Res → Option Nat} :
    JInv param faults jobs T { s with threads := s.threads.set t (some ⟨ts.job, ts.pc + 1⟩), owner := o,
                                      writes := i.writes ts.job s.writes } := by
  have hsub : ∀ w ∈ s.writes, w ∈ i.writes ts.job s.writes := fun w hw => Instr.mem_writes.mpr (Or.inl hw)
  have hself : (s.threads.set t (some ⟨ts.job, ts.pc + 1⟩))[t]? = some (some ⟨ts.job, ts.pc + 1⟩) :=
    List.getElem?_set_self (lt_of_get hth)
  refine ⟨List.length_set.trans h.len, fun j' => ?_, ?_, fun j hj pc => (h.ok j hj pc).mono hsub, h.failed,
    fun j' r hjr => ?_, fun hnd => ?_⟩
  · have c := h.cnt j'
    have r := runCount_set j' s.threads t (some ts) (some ⟨ts.job, ts.pc + 1⟩) hth
    simp only [jobInd] at r ⊢
    omega
  · refine forall_running_set (fun t' ts' h' pc hpc => (h.run t' ts' h' pc hpc).mono hsub) ?_
    rintro _ ⟨⟩ pc hpc
    rcases Nat.lt_succ_iff_lt_or_eq.mp hpc with hlt | rfl
    · exact (h.run t ts hth pc hlt).mono hsub
    · exact ⟨hnf, fun r hir hr => Instr.mem_writes.mpr (Or.inr ⟨r, Option.some.inj (hi ▸ hir), hr, rfl⟩)⟩
  · rcases Instr.mem_writes.mp hjr with hold | ⟨r', rfl, hr, ⟨⟩⟩
    · obtain ⟨hr, pc, hpc, hw⟩ := h.sound j' r hold
      refine ⟨hr, pc, hpc, hw.move hth rfl (fun _ => id) ?_⟩
      rintro _ ⟨⟩ hj hlt
      exact .inl ⟨t, _, hself, hj, Nat.lt_succ_of_lt hlt⟩
    · exact ⟨hr, ts.pc, hi, .inl ⟨t, _, hself, rfl, Nat.lt_succ_self _⟩⟩
  · exact Instr.writes_nodup (h.nodup hnd) fun r hr => h.not_written hnd hth (hr ▸ hi)

theorem stop (h : JInv param faults jobs T s) {t : Nat} {ts : TState} (hth : s.threads[t]? = some (some ts))
    {res : Option Nat} (hres : res = none ∧ instrAt param ts.pc = none ∨
      res = some ts.pc ∧ faults ts.job ts.pc = true ∧ Faultable param ts.pc) {o : Res → Option Nat} :
    JInv param faults jobs T { s with threads := s.threads.set t none, owner := o,
                                      done := s.done ++ [(ts.job, res)] } := by
  refine ⟨List.length_set.trans h.len, fun j' => ?_, forall_running_set h.run nofun, fun j hj pc => ?_,
    fun j pc hj => ?_, fun j' r hjr => ?_, h.nodup⟩
  · have c := h.cnt j'
    have r := runCount_set j' s.threads t (some ts) none hth
    simp only [jobInd, List.map_append, List.map_cons, List.map_nil, List.count_append, List.count_cons,
      List.count_nil, beq_iff_eq] at r ⊢
    omega
  · rcases List.mem_append.mp hj with hold | hnew
    · exact h.ok j hold pc
    · cases List.mem_singleton.mp hnew
      obtain ⟨_, hi⟩ | ⟨⟨⟩, _⟩ := hres
      by_cases hpc : pc < ts.pc
      · exact h.run t ts hth pc hpc
      · exact passed_of_none (instrAt_none_iff.mpr (Nat.le_trans (instrAt_none_iff.mp hi) (Nat.not_lt.mp hpc)))
  · rcases List.mem_append.mp hj with hold | hnew
    · exact h.failed j pc hold
    · cases List.mem_singleton.mp hnew
      obtain ⟨⟨⟩, _⟩ | ⟨⟨⟩, hf⟩ := hres
      exact hf
  · obtain ⟨hr, pc, hpc, hw⟩ := h.sound j' r hjr
    refine ⟨hr, pc, hpc, hw.move hth rfl (fun _ => List.mem_append_left _) ?_⟩
    rintro _ ⟨⟩ hj _
    exact .inr ⟨res, hj ▸ List.mem_append_right _ (List.mem_singleton_self _)⟩

/-- in a final state the finished jobs are the submitted ones -/
theorem final_done_perm (h : JInv param faults jobs T s) (hf : s.final = true) : (s.done.map Prod.fst).Perm jobs := by
  obtain ⟨hq, hth⟩ := final_iff.mp hf
  refine List.perm_iff_count.mpr fun j => ?_
  have c := h.cnt j
  rwa [hq, runCount_all_none hth, List.count_nil, Nat.zero_add] at c

theorem final_done_mem (h : JInv param faults jobs T s) (hf : s.final = true) {j : Nat} (hj : j ∈ jobs) :
    ∃ res, (j, res) ∈ s.done := by
  obtain ⟨⟨_, res⟩, hm, rfl⟩ := List.mem_map.mp ((h.final_done_perm hf).mem_iff.mpr hj)
  exact ⟨res, hm⟩

/-- in a final state with outcome `ok` the completed writes are exactly the C (and P) writes of all jobs -/
theorem final_ok_writes_iff (h : JInv param faults jobs T s) (hf : s.final = true) (hok : s.outcome = .ok)
    (j : Nat) (r : Res) :
    (j, r) ∈ s.writes ↔ j ∈ jobs ∧ (r = .C ∨ r = .P) ∧ ∃ pc, instrAt param pc = some (.io r) := by
  constructor
  · intro hm
    obtain ⟨hr, pc, hpc, hw⟩ := h.sound j r hm
    refine ⟨?_, hr, pc, hpc⟩
    rcases hw with ⟨t, ts, ht, rfl, _⟩ | ⟨res, hres⟩
    · exact h.running_mem ht
    · exact (h.final_done_perm hf).mem_iff.mp (List.mem_map.mpr ⟨_, hres, rfl⟩)
  · rintro ⟨hj, hr, pc, hpc⟩
    obtain ⟨res, hm⟩ := h.final_done_mem hf hj
    cases outcome_ok_iff.mp hok _ hm
    exact (h.ok j hm pc).2 r hpc hr

/-- two complete runs that came out `ok` - whatever the thread counts, the schedules and the fault plans - have written
    the same blocks to each file -/
theorem final_ok_writes_perm {faults' : Faults} {T' : Nat} {s' : SState} (h : JInv param faults jobs T s)
    (h' : JInv param faults' jobs T' s') (hnd : jobs.Nodup) (hf : s.final = true) (hf' : s'.final = true)
    (hok : s.outcome = .ok) (hok' : s'.outcome = .ok) (r : Res) :
    ((s.writes.filter fun w => w.2 = r).map Prod.fst).Perm ((s'.writes.filter fun w => w.2 = r).map Prod.fst) := by
  rw [List.perm_ext_iff_of_nodup (nodup_map_fst_filter_snd r (h.nodup hnd))
    (nodup_map_fst_filter_snd r (h'.nodup hnd))]
  intro j
  rw [mem_map_fst_filter_snd, mem_map_fst_filter_snd, h.final_ok_writes_iff hf hok, h'.final_ok_writes_iff hf' hok']

theorem outcome_ok_of_no_faults (h : JInv param (fun _ _ => false) jobs T s) : s.outcome = .ok := by
  refine outcome_ok_iff.mpr fun ⟨j, res⟩ hd => ?_
  cases res with
  | none => rfl
  | some pc => exact nomatch (h.failed j pc hd).1

end JInv

theorem jinv_step {param : Bool} {faults : Faults} {jobs : List Nat} {T : Nat} {s s' : SState} {t : Nat}
    (h : JInv param faults jobs T s) (hs : step param faults s t = some s') : JInv param faults jobs T s' := by
  cases step_cases hs with
  | take hth hq => exact h.take hth hq
  | adv hth hi _ hnf => exact h.adv hth hi hnf
  | stop hth hres => exact h.stop hth hres

theorem jinv_init (param : Bool) (faults : Faults) (jobs : List Nat) (T : Nat) :
    JInv param faults jobs T (initState jobs T) where
  len := List.length_replicate
  cnt j := by
    rw [initState, runCount_all_none fun _ hth => (List.mem_replicate.mp hth).2]
    rfl
  run t ts h := absurd h initState_idle
  ok j h := nomatch h
  failed j pc h := nomatch h
  sound j r h := nomatch h
  nodup _ := List.nodup_nil

theorem jinv_reach {param : Bool} {faults : Faults} {jobs : List Nat} {T : Nat} {s : SState}
    (h : ∃ sched : List Nat, s = runSched param faults (initState jobs T) sched) : JInv param faults jobs T s :=
  reach_induct (jinv_init param faults jobs T) jinv_step h


/-! ### disjoint block writes -/

theorem applyWrites_cons {α : Type} (cover : Nat → Nat → Bool) (val : Nat → Nat → α) (init : Nat → α)
    (b : Nat) (ws : List Nat) :
    applyWrites cover val init (b :: ws) =
      applyWrites cover val (fun x => if cover b x then val b x else init x) ws := rfl

/-- a pixel no block covers keeps its initial value -/
theorem applyWrites_not_covered {α : Type} (cover : Nat → Nat → Bool) (val : Nat → Nat → α) (init : Nat → α)
    (ws : List Nat) (x : Nat) (h : ∀ b ∈ ws, cover b x = false) : applyWrites cover val init ws x = init x := by
  induction ws generalizing init with
  | nil => rfl
  | cons b ws ih =>
    rw [applyWrites_cons, ih _ (fun b' hb' => h b' (List.mem_cons_of_mem _ hb')), h b List.mem_cons_self]
    rfl

/-- a pixel covered by exactly one block of the list gets that block's value -/
theorem applyWrites_covered {α : Type} (cover : Nat → Nat → Bool) (val : Nat → Nat → α) (init : Nat → α)
    (ws : List Nat) (x b : Nat) (hb : b ∈ ws) (hc : cover b x = true)
    (huniq : ∀ b' ∈ ws, cover b' x = true → b' = b) : applyWrites cover val init ws x = val b x := by
  induction ws generalizing init with
  | nil => cases hb
  | cons b0 ws ih =>
    rw [applyWrites_cons]
    by_cases hmem : b ∈ ws
    · exact ih _ hmem (fun b' hb' => huniq b' (List.mem_cons_of_mem _ hb'))
    · obtain rfl : b = b0 := (List.mem_cons.mp hb).resolve_right hmem
      rw [applyWrites_not_covered, hc]
      · rfl
      · intro b' hb'
        refine Bool.eq_false_iff.mpr fun hcb => hmem ?_
        rwa [← huniq b' (List.mem_cons_of_mem _ hb') hcb]

theorem applyWrites_perm {α : Type} (cover : Nat → Nat → Bool) (val : Nat → Nat → α) (init : Nat → α)
    (ws ws' : List Nat) (hperm : ws.Perm ws')
    (hdisj : ∀ b ∈ ws, ∀ b' ∈ ws, b ≠ b' → ∀ x, ¬ (cover b x = true ∧ cover b' x = true)) :
    applyWrites cover val init ws = applyWrites cover val init ws' := by
  funext x
  by_cases hex : ∃ b ∈ ws, cover b x = true
  · obtain ⟨b, hb, hc⟩ := hex
    have huniq : ∀ b' ∈ ws, cover b' x = true → b' = b := fun b' hb' hc' =>
      by_contra fun hne => hdisj b' hb' b hb hne x ⟨hc', hc⟩
    rw [applyWrites_covered cover val init ws x b hb hc huniq,
      applyWrites_covered cover val init ws' x b (hperm.mem_iff.mp hb) hc
        (fun b' hb' => huniq b' (hperm.mem_iff.mpr hb'))]
  · have hno : ∀ b ∈ ws, cover b x = false := fun b hb =>
      Bool.eq_false_iff.mpr fun hc => hex ⟨b, hb, hc⟩
    rw [applyWrites_not_covered cover val init ws x hno,
      applyWrites_not_covered cover val init ws' x (fun b hb => hno b (hperm.mem_iff.mpr hb))]

end Homonim
