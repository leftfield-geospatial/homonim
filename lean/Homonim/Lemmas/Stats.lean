/-
  Homonim.Lemmas.Stats — what C11 and C12 share.  The two accumulators (`CSums` of compare.py, `PAcc` of stats.py) are
  commutative monoids and `accumulate`, `blockSums`, `tileAcc` are left folds of the monoid operation: "any partition, any
  completion order, empty tiles skipped" are then facts about `List.foldl` of an associative (commutative) operation with a
  neutral element, stated once.  Also the centred-sum identity behind Pearson's r² and the one-pass variance.
-/
import Homonim.Model.Stats
import Mathlib.Tactic.Ring
import Mathlib.Algebra.BigOperators.Group.List.Basic
import Mathlib.Algebra.Order.Field.Basic
import Mathlib.Data.List.Perm.Basic

namespace Homonim

/-! ### left folds of a monoid operation (order independence is Mathlib's `List.Perm.foldl_op_eq`) -/

section Fold
variable {α β : Type} {op : α → α → α} {e : α} [Std.Associative op] [Std.LawfulIdentity op e]

theorem foldl_op_init (l : List α) (a : α) : l.foldl op a = op a (l.foldl op e) := by
  rw [← List.foldl_assoc (op := op), Std.LawfulRightIdentity.right_id (op := op)]

theorem foldl_op_cons (a : α) (l : List α) : (a :: l).foldl op e = op a (l.foldl op e) := by
  rw [List.foldl_cons, Std.LawfulLeftIdentity.left_id (op := op), foldl_op_init]

theorem foldl_op_append (l₁ l₂ : List α) : (l₁ ++ l₂).foldl op e = op (l₁.foldl op e) (l₂.foldl op e) := by
  rw [List.foldl_append, foldl_op_init]

/-- folding the folds of the parts is folding the whole -/
theorem foldl_op_flatten (L : List (List α)) : (L.map (List.foldl op e)).foldl op e = L.flatten.foldl op e := by
  induction L with
  | nil => rfl
  | cons l L ih => rw [List.map_cons, foldl_op_cons, ih, List.flatten_cons, foldl_op_append]

/-- ... also for folds of the images under `f` (`blockSums`, `tileAcc`: the folds of the pixels' contributions) -/
theorem foldl_op_flatten_map (f : β → α) (L : List (List β)) :
    (L.map fun l => (l.map f).foldl op e).foldl op e = (L.flatten.map f).foldl op e := by
  rw [List.map_flatten, ← foldl_op_flatten, List.map_map]
  rfl

/-- elements that map to the neutral element may be skipped -/
theorem foldl_op_filter (f : β → α) (p : β → Bool) (l : List β) (h : ∀ t ∈ l, p t = false → f t = e) :
    ((l.filter p).map f).foldl op e = (l.map f).foldl op e := by
  induction l with
  | nil => rfl
  | cons t l ih =>
    rw [List.forall_mem_cons] at h
    rw [List.map_cons, foldl_op_cons, ← ih h.2]
    cases hp : p t
    · rw [List.filter_cons_of_neg (Bool.not_eq_true _ ▸ hp), h.1 hp, Std.LawfulLeftIdentity.left_id (op := op)]
    · rw [List.filter_cons_of_pos hp, List.map_cons, foldl_op_cons]

end Fold

/-! ### `CSums` -/

theorem CSums.add_assoc (a b c : CSums) : (a.add b).add c = a.add (b.add c) := by
  simp only [CSums.add, _root_.add_assoc]

theorem CSums.add_comm (a b : CSums) : a.add b = b.add a := by
  simp only [CSums.add, _root_.add_comm]

theorem CSums.add_zero (a : CSums) : a.add CSums.zero = a := by
  simp only [CSums.add, CSums.zero, _root_.add_zero]

theorem CSums.zero_add (a : CSums) : CSums.zero.add a = a := by
  rw [CSums.add_comm, CSums.add_zero]

instance : Std.Associative CSums.add := ⟨CSums.add_assoc⟩
instance : Std.Commutative CSums.add := ⟨CSums.add_comm⟩
instance : Std.LawfulIdentity CSums.add CSums.zero := { left_id := CSums.zero_add, right_id := CSums.add_zero }

theorem accumulate_singleton (x : CSums) : accumulate [x] = x := CSums.zero_add x

theorem accumulate_append (a b : List CSums) : accumulate (a ++ b) = (accumulate a).add (accumulate b) :=
  foldl_op_append a b

theorem accumulate_flatten (L : List (List CSums)) : accumulate (L.map accumulate) = accumulate L.flatten :=
  foldl_op_flatten L

/-- one pixel's contribution -/
def pxSums (x : ℚ × ℚ) : CSums := ⟨x.1, x.2, x.1 * x.1, x.2 * x.2, x.1 * x.2, (x.2 - x.1) * (x.2 - x.1), 1⟩

/-- the sums of a block are the accumulated contributions of its pixels -/
theorem blockSums_eq_accumulate (p : List (ℚ × ℚ)) : blockSums p = accumulate (p.map pxSums) :=
  List.foldl_map.symm

theorem blockSums_cons (x : ℚ × ℚ) (p : List (ℚ × ℚ)) : blockSums (x :: p) = (pxSums x).add (blockSums p) := by
  simp only [blockSums_eq_accumulate, accumulate, List.map_cons, foldl_op_cons]

/-- **Block sums are additive over any split of the pixels** -/
theorem blockSums_append (p q : List (ℚ × ℚ)) : blockSums (p ++ q) = (blockSums p).add (blockSums q) := by
  simp only [blockSums_eq_accumulate, accumulate, List.map_append, foldl_op_append]

/-- the sums of the blocks of any partition accumulate to the sums of all the pixels -/
theorem accumulate_map_blockSums (blocks : List (List (ℚ × ℚ))) :
    accumulate (blocks.map blockSums) = blockSums blocks.flatten := by
  simp only [funext blockSums_eq_accumulate]
  exact foldl_op_flatten_map pxSums blocks

/-- the order of the pixels inside a block does not matter either -/
theorem blockSums_perm {p q : List (ℚ × ℚ)} (h : p.Perm q) : blockSums p = blockSums q := by
  rw [blockSums_eq_accumulate, blockSums_eq_accumulate]
  exact (h.map _).foldl_op_eq

/-! ### `PAcc`: `optMin` / `optMax` are `min` / `max` with `none` as neutral element, core's `Option.merge` -/

theorem optMin_eq_merge : optMin = Option.merge min := by
  funext a b; cases a <;> cases b <;> rfl

theorem optMax_eq_merge : optMax = Option.merge max := by
  funext a b; cases a <;> cases b <;> rfl

theorem PAcc.add_assoc (a b c : PAcc) : (a.add b).add c = a.add (b.add c) := by
  simp only [PAcc.add, optMin_eq_merge, optMax_eq_merge, Std.Associative.assoc]

theorem PAcc.add_comm (a b : PAcc) : a.add b = b.add a := by
  simp only [PAcc.add, optMin_eq_merge, optMax_eq_merge, Std.Commutative.comm (op := Option.merge _) a.min,
    Std.Commutative.comm (op := Option.merge _) a.max, _root_.add_comm]

theorem PAcc.add_zero (a : PAcc) : a.add PAcc.zero = a := by
  simp only [PAcc.add, PAcc.zero, optMin_eq_merge, optMax_eq_merge, Option.merge_none_right, _root_.add_zero]

theorem PAcc.zero_add (a : PAcc) : PAcc.zero.add a = a := by
  rw [PAcc.add_comm, PAcc.add_zero]

instance : Std.Associative PAcc.add := ⟨PAcc.add_assoc⟩
instance : Std.Commutative PAcc.add := ⟨PAcc.add_comm⟩
instance : Std.LawfulIdentity PAcc.add PAcc.zero := { left_id := PAcc.zero_add, right_id := PAcc.add_zero }

/-- one pixel's contribution to the accumulator -/
def pxAcc (thresh : Option ℚ) (v : ℚ) : PAcc :=
  ⟨some v, some v, v, v * v, 1, match thresh with | some t => if v < t then 1 else 0 | none => 0⟩

/-- the accumulator of a tile is the accumulated contributions of its pixels -/
theorem tileAcc_eq_foldl (th : Option ℚ) (l : List ℚ) : tileAcc th l = (l.map (pxAcc th)).foldl PAcc.add PAcc.zero :=
  List.foldl_map.symm

theorem tileAcc_cons (th : Option ℚ) (x : ℚ) (l : List ℚ) : tileAcc th (x :: l) = (pxAcc th x).add (tileAcc th l) := by
  simp only [tileAcc_eq_foldl, List.map_cons, foldl_op_cons]

theorem tileAcc_append (th : Option ℚ) (a b : List ℚ) : tileAcc th (a ++ b) = (tileAcc th a).add (tileAcc th b) := by
  simp only [tileAcc_eq_foldl, List.map_append, foldl_op_append]

/-! ### centred sums -/

/-- `Σ (u - a)(v - b) = Σ uv - b Σ u - a Σ v + n a b` -/
theorem sum_centred {β : Type} (l : List β) (u v : β → ℚ) (a b : ℚ) :
    (l.map fun x => (u x - a) * (v x - b)).sum =
      (l.map fun x => u x * v x).sum - b * (l.map u).sum - a * (l.map v).sum + l.length * a * b := by
  induction l with
  | nil => simp only [List.map_nil, List.sum_nil, List.length_nil, Nat.cast_zero]; ring
  | cons x xs ih => simp only [List.map_cons, List.sum_cons, List.length_cons, Nat.cast_succ, ih]; ring

/-- about the means the mixed terms cancel: `Σ (u - ū)(v - v̄) = Σ uv - n ū v̄` (`n` the number of points, in whatever form
    the caller holds it) -/
theorem sum_centred_mean {β : Type} (l : List β) (u v : β → ℚ) {n : ℚ} (hn : n = l.length) (h0 : n ≠ 0) :
    (l.map fun x => (u x - (l.map u).sum / n) * (v x - (l.map v).sum / n)).sum =
      (l.map fun x => u x * v x).sum - n * ((l.map u).sum / n) * ((l.map v).sum / n) := by
  rw [sum_centred, ← hn, mul_div_cancel₀ _ h0]; ring

end Homonim
