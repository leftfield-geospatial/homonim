/-
  Helper lemmas about the greedy band matcher (Model/Bands.lean).

  `matchBands` is cut into its wavelength stage (`stage1`), its file-order fallback (`stage2`) and the final pairing
  (`pairsOf`).  One turn of the loop takes `List.argmin` of the distance over the entries still free (`argminEntry_eq`);
  the loop of `greedyMatch` is reasoned about through one induction principle, `greedy_induct`, stated on the
  accumulator alone: the two masks are functions of it (`Masks`).
-/
import Homonim.Model.Bands
import Mathlib.Algebra.Order.Field.Rat
import Mathlib.Data.List.GetD
import Mathlib.Data.List.MinMax
import Mathlib.Data.List.Nodup
import Mathlib.Data.List.Perm.Subperm

namespace Homonim
open matchBands

/-! ### lists read with a default -/

theorem lt_length_of_getD_ne {α : Type} {l : List α} {i : Nat} {d : α} (h : l.getD i d ≠ d) : i < l.length :=
  not_le.1 (mt (List.getD_eq_default l d) h)

theorem getElem_of_getD_false {l : List Bool} {i : Nat} (h : l.getD i true = false) :
    ∃ hi : i < l.length, l[i] = false :=
  have hi := lt_length_of_getD_ne (h ▸ Bool.false_ne_true)
  ⟨hi, List.getD_eq_getElem l true hi ▸ h⟩

theorem getD_inj_of_nodup {α : Type} {l : List α} (hnd : l.Nodup) {d : α} {j j' : Nat} (h : j < l.length)
    (h' : j' < l.length) (he : l.getD j d = l.getD j' d) : j = j' := by
  rw [List.getD_eq_getElem l d h, List.getD_eq_getElem l d h'] at he
  exact hnd.getElem_inj_iff.1 he

theorem getD_set_true (l : List Bool) (i j : Nat) :
    (l.set i true).getD j true = false ↔ j ≠ i ∧ l.getD j true = false := by
  simp only [List.getD_eq_getElem?_getD, List.getElem?_set]
  by_cases h : i = j
  · subst h; by_cases hl : i < l.length <;> simp [hl]
  · simp [h, Ne.symm h]

theorem count_set_true {l : List Bool} {i : Nat} (h : l.getD i true = false) :
    (l.set i true).count false + 1 = l.count false := by
  obtain ⟨hi, hget⟩ := getElem_of_getD_false h
  have : 0 < l.count false := List.count_pos_iff.2 (List.mem_of_getElem hget)
  rw [List.count_set hi, hget]
  -- the two `if`s evaluate: `l.count false - 1 + 0 + 1 = l.count false`
  exact Nat.sub_add_cancel this

theorem getD_map_isSome {α : Type} (acc : List (Option α)) (i : Nat) :
    (acc.map Option.isSome).getD i true = false ↔ acc[i]? = some none := by
  rw [List.getD_eq_getElem?_getD, List.getElem?_map]
  rcases acc[i]? with _ | _ | _ <;> simp

theorem getElem?_replicate_none {α : Type} {n i : Nat} {x : α} :
    (List.replicate n (none : Option α))[i]? ≠ some (some x) := by
  rw [List.getElem?_replicate]; split <;> simp

/-- filling a gap adds one entry and changes no other -/
theorem getElem?_set_some {α : Type} {acc : List (Option α)} {i : Nat} (hi : acc[i]? = some none) {x y : α}
    {k : Nat} : (acc.set i (some x))[k]? = some (some y) ↔ k = i ∧ x = y ∨ acc[k]? = some (some y) := by
  rw [List.getElem?_set]
  by_cases h : i = k
  · subst h; obtain ⟨hlt, hget⟩ := List.getElem?_eq_some_iff.1 hi; simp [hlt, hget]
  · simp [h, Ne.symm h]

theorem nodup_filterMap_of_index_inj {α : Type} (l : List (Option α))
    (h : ∀ (i i' : Nat) (x : α), l[i]? = some (some x) → l[i']? = some (some x) → i = i') :
    (l.filterMap id).Nodup := by
  rw [List.Nodup, List.pairwise_filterMap, List.pairwise_iff_getElem]
  rintro i i' hi hi' hlt x hx _ hx' rfl
  exact absurd (h i i' x (by rw [List.getElem?_eq_getElem hi]; exact congrArg some hx)
    (by rw [List.getElem?_eq_getElem hi']; exact congrArg some hx')) (Nat.ne_of_lt hlt)

/-! ### structure of `matchBands` -/

/-- the distance matrix of `matchBands` -/
def distOf (srcW refW : List (Option Rat)) : List (List (Option Rat)) :=
  srcW.map fun s => refW.map fun r => relDist s r

/-- `greedy_match` from the empty state, as `matchBands` calls it (`n` rows, `m` columns) -/
def greedyRun (dist : List (List (Option Rat))) (n m : Nat) : List (Option (Nat × Rat)) :=
  greedyMatch dist n (List.replicate n false) (List.replicate m false) (List.replicate n none)

/-- the map from greedy result to reference band numbers -/
def toRef (refB : List Nat) (g : List (Option (Nat × Rat))) : List (Option Nat) :=
  g.map fun e => e.map fun jd => refB.getD jd.1 0

def unmatchRef (refB : List Nat) (mb : List (Option Nat)) : List Nat :=
  refB.filter fun bi => !(mb.contains (some bi))

def stage1 (n : Nat) (srcW : List (Option Rat)) (refB : List Nat) (refW : List (Option Rat))
    (force : Bool) (tol : Rat) : Except MatchErr (List (Option Nat)) :=
  if npAny srcW && npAny refW && !force then
    if (greedyRun (distOf srcW refW) n refB.length).any fun e =>
        match e with | some (_, d) => decide (tol < d) | none => false then .error .unmatchedWavelength
    else .ok (toRef refB (greedyRun (distOf srcW refW) n refB.length))
  else .ok (List.replicate n none)

def stage2 (n m : Nat) (refB : List Nat) (force : Bool) (mb : List (Option Nat)) : Except MatchErr (List (Option Nat)) :=
  if (mb.filter Option.isSome).length < min n m then
    if n = m then .ok (fillNone mb (unmatchRef refB mb))
    else if force then .ok (fillNone mb (unmatchRef refB mb))
    else .error .unmatchedCount
  else .ok mb

def pairsOf (srcB : List Nat) (mb2 : List (Option Nat)) : List (Nat × Nat) :=
  (srcB.zip mb2).filterMap fun p => p.2.map fun r => (p.1, r)

theorem matchBands_eq (srcB : List Nat) (srcW : List (Option Rat)) (refB : List Nat) (refW : List (Option Rat))
    (force : Bool) (tol : Rat) : matchBands srcB srcW refB refW force tol =
    if srcB.length > refB.length && !force then .error .fewerRef else
    match stage1 srcB.length srcW refB refW force tol with
    | .error e => .error e
    | .ok mb => match stage2 srcB.length refB.length refB force mb with
      | .error e => .error e
      | .ok mb2 => .ok ((pairsOf srcB mb2).map (·.1), (pairsOf srcB mb2).map (·.2)) := by
  rfl

/-! ### the final pairing -/

theorem pairsOf_fst_sublist : ∀ (srcB : List Nat) (mb2 : List (Option Nat)),
    ((pairsOf srcB mb2).map (·.1)).Sublist srcB
  | [], _ => List.nil_sublist _
  | _ :: _, [] => List.nil_sublist _
  | a :: l, none :: l' => (pairsOf_fst_sublist l l').trans (List.sublist_cons_self a l)
  | a :: l, some _ :: l' => (pairsOf_fst_sublist l l').cons_cons a

theorem pairsOf_snd_sublist : ∀ (srcB : List Nat) (mb2 : List (Option Nat)),
    ((pairsOf srcB mb2).map (·.2)).Sublist (mb2.filterMap id)
  | [], _ => List.nil_sublist _
  | _ :: _, [] => List.nil_sublist _
  | _ :: l, none :: l' => pairsOf_snd_sublist l l'
  | _ :: l, some x :: l' => (pairsOf_snd_sublist l l').cons_cons x

theorem pairsOf_map_some (srcB R : List Nat) : pairsOf srcB (R.map some) = srcB.zip R := by
  simp [pairsOf, List.zip_map_right, List.filterMap_map]

theorem eq_map_some_of_all_some {l : List (Option Nat)} (h : ∀ x ∈ l, x.isSome = true) :
    l = (l.filterMap id).map some := by
  rw [List.map_filterMap_some_eq_filter_map_isSome, List.map_id, List.filter_eq_self.2 h]

/-! ### `fillNone` -/

theorem fm_some (y : Nat) (l : List (Option Nat)) : (some y :: l).filterMap id = y :: l.filterMap id := rfl
theorem fm_none (l : List (Option Nat)) : ((none : Option Nat) :: l).filterMap id = l.filterMap id := rfl

theorem fillNone_length (l : List (Option Nat)) (vals : List Nat) : (fillNone l vals).length = l.length := by
  fun_induction fillNone l vals <;> simp [*]

/-- filling adds values of `vals` only, each at most once -/
theorem fillNone_subperm (l : List (Option Nat)) (vals : List Nat) :
    ((fillNone l vals).filterMap id).Subperm (l.filterMap id ++ vals) := by
  fun_induction fillNone l vals with
  | case1 => exact List.nil_subperm
  | case2 x rest vals ih => exact (List.subperm_cons x).2 ih
  | case3 rest v vals ih => exact ((List.subperm_cons v).2 ih).trans List.perm_middle.symm.subperm
  | case4 rest ih => exact ih

theorem fillNone_mem {l : List (Option Nat)} {vals : List Nat} {x : Nat} (h : some x ∈ fillNone l vals) :
    some x ∈ l ∨ x ∈ vals := by
  simpa using (fillNone_subperm l vals).subset (List.mem_filterMap.2 ⟨_, h, rfl⟩)

theorem fillNone_nodup {l : List (Option Nat)} {vals : List Nat} (hl : (l.filterMap id).Nodup) (hv : vals.Nodup)
    (hd : ∀ v ∈ vals, some v ∉ l) : ((fillNone l vals).filterMap id).Nodup := by
  obtain ⟨l', hp, hs⟩ := fillNone_subperm l vals
  refine hp.nodup_iff.1 (List.Nodup.sublist hs (List.nodup_append.2 ⟨hl, hv, ?_⟩))
  rintro a ha _ hb rfl
  exact hd a hb (by simpa using ha)

theorem fillNone_all_some {l : List (Option Nat)} {vals : List Nat}
    (h : l.length ≤ (l.filter Option.isSome).length + vals.length) : ∀ x ∈ fillNone l vals, x.isSome = true := by
  fun_induction fillNone l vals with
  | case1 => nofun
  | case2 x rest vals ih =>
    rw [List.filter_cons_of_pos rfl, List.length_cons, List.length_cons] at h
    exact List.forall_mem_cons.2 ⟨rfl, ih (by omega)⟩
  | case3 rest v vals ih =>
    rw [List.filter_cons_of_neg Bool.false_ne_true, List.length_cons, List.length_cons] at h
    exact List.forall_mem_cons.2 ⟨rfl, ih (by omega)⟩
  | case4 rest ih =>
    have := List.length_filter_le Option.isSome rest
    rw [List.filter_cons_of_neg Bool.false_ne_true, List.length_cons, List.length_nil] at h
    omega

theorem fillNone_getElem? {l : List (Option Nat)} {vals : List Nat} {i x : Nat}
    (h : (fillNone l vals)[i]? = some (some x)) : l[i]? = some (some x) ∨ l[i]? = some none ∧ x ∈ vals := by
  fun_induction fillNone l vals generalizing i with
  | case1 => cases h
  | case2 y rest vals ih =>
    cases i with
    | zero => exact .inl h
    | succ i => exact ih h
  | case3 rest v vals ih =>
    cases i with
    | zero => cases h; exact .inr ⟨rfl, List.mem_cons_self⟩
    | succ i => exact (ih h).imp_right (And.imp_right (List.mem_cons_of_mem v))
  | case4 rest ih =>
    cases i with
    | zero => cases h
    | succ i => exact ih h

/-! ### `argminEntry` -/

/-- the candidate entries scanned by `argminEntry` -/
def entries (dist : List (List (Option Rat))) (rowUsed colUsed : List Bool) : List (Nat × Nat × Rat) :=
  (List.range dist.length).flatMap fun i =>
    if rowUsed.getD i true then [] else
      let row := dist.getD i []
      (List.range row.length).filterMap fun j =>
        if colUsed.getD j true then none else (row.getD j none).map fun d => (i, j, d)

/-- `argminEntry` is `List.argmin` of the distance over the candidate entries: the first of those with least distance -/
theorem argminEntry_eq (dist ru cu) : argminEntry dist ru cu = (entries dist ru cu).argmin (·.2.2) :=
  congrArg (List.foldl · none (entries dist ru cu)) (funext₂ fun best _ => by cases best <;> rfl)

theorem mem_entries (dist : List (List (Option Rat))) (ru cu : List Bool) (i j : Nat) (d : Rat) :
    (i, j, d) ∈ entries dist ru cu ↔
      ru.getD i true = false ∧ cu.getD j true = false ∧ (dist.getD i []).getD j none = some d := by
  refine ⟨?_, fun ⟨hru, hcu, hd⟩ => ?_⟩
  · simp only [entries, List.mem_flatMap, List.mem_range, List.mem_ite_nil_left, List.mem_filterMap]
    rintro ⟨i', _, hru, j', _, h⟩
    split at h
    · cases h
    · rename_i hcu
      obtain ⟨d', hd', h⟩ := Option.map_eq_some_iff.1 h
      cases h
      exact ⟨Bool.not_eq_true _ ▸ hru, Bool.not_eq_true _ ▸ hcu, hd'⟩
  · -- an entry that is `some d` lies inside the matrix
    have hj := lt_length_of_getD_ne (hd ▸ Option.some_ne_none d)
    have hi := lt_length_of_getD_ne (l := dist) (d := []) fun h0 => by rw [h0] at hj; cases hj
    simp only [entries, List.mem_flatMap, List.mem_range]
    refine ⟨i, hi, ?_⟩
    rw [hru, if_neg Bool.false_ne_true]
    exact List.mem_filterMap.2 ⟨j, List.mem_range.2 hj, by rw [hcu, hd]; rfl⟩

/-! ### the greedy loop -/

/-- entry `(i, j)` of the matrix, of value `d`, can still be taken: row `i` is unassigned and no row has column `j` -/
def Avail (dist : List (List (Option Rat))) (m : Nat) (acc : List (Option (Nat × Rat))) (i j : Nat) (d : Rat) : Prop :=
  acc[i]? = some none ∧ j < m ∧ (∀ (i' : Nat) (d' : Rat), acc[i']? ≠ some (some (j, d'))) ∧
    (dist.getD i []).getD j none = some d

/-- the two masks of `greedyMatch` are functions of its accumulator -/
structure Masks (m : Nat) (ru cu : List Bool) (acc : List (Option (Nat × Rat))) : Prop where
  row : ru = acc.map Option.isSome
  col : ∀ j, cu.getD j true = false ↔ j < m ∧ ∀ (i : Nat) (d : Rat), acc[i]? ≠ some (some (j, d))

section loop
variable {dist : List (List (Option Rat))} {n m : Nat} {ru cu : List Bool} {acc : List (Option (Nat × Rat))}

theorem Masks.mem_entries (h : Masks m ru cu acc) {i j : Nat} {d : Rat} :
    (i, j, d) ∈ entries dist ru cu ↔ Avail dist m acc i j d := by
  rw [Homonim.mem_entries, h.row, getD_map_isSome, h.col, Avail, and_assoc]

theorem Masks.init (n m : Nat) : Masks m (List.replicate n false) (List.replicate m false) (List.replicate n none) := by
  refine ⟨(List.map_replicate (f := Option.isSome) (a := none)).symm, fun j => ?_⟩
  rw [List.getD_eq_getElem?_getD, List.getElem?_replicate]
  split
  · rename_i hj; exact ⟨fun _ => ⟨hj, fun _ _ => getElem?_replicate_none⟩, fun _ => rfl⟩
  · rename_i hj; exact ⟨nofun, fun h => absurd h.1 hj⟩

theorem Masks.step (h : Masks m ru cu acc) {i : Nat} (hi : acc[i]? = some none) {j : Nat} {d : Rat} :
    Masks m (ru.set i true) (cu.set j true) (acc.set i (some (j, d))) := by
  refine ⟨by rw [List.map_set, ← h.row]; rfl, fun j' => ?_⟩
  simp only [getD_set_true, h.col, ne_eq, getElem?_set_some hi, Prod.mk.injEq, not_or, not_and, forall_and]
  exact ⟨fun ⟨hne, hlt, hfree⟩ => ⟨hlt, fun _ _ _ hj _ => hne hj.symm, hfree⟩,
    fun ⟨hlt, hne, hfree⟩ => ⟨fun hj => hne i d rfl hj.symm rfl, hlt, hfree⟩⟩

/-- The loop as an induction principle: what is kept by assigning an available entry of least distance holds of the
    result if it holds at the start; and `fuel` that covers the free rows lets the loop run until no entry is available. -/
theorem greedyMatch_induct (Q : List (Option (Nat × Rat)) → Prop)
    (hQ : ∀ acc i j d, Q acc → Avail dist m acc i j d → (∀ i' j' d', Avail dist m acc i' j' d' → d ≤ d') →
      Q (acc.set i (some (j, d)))) (fuel ru cu acc) (hM : Masks m ru cu acc) (hq : Q acc) (hc : ru.count false ≤ fuel) :
    Q (greedyMatch dist fuel ru cu acc) ∧ ∀ i j d, ¬ Avail dist m (greedyMatch dist fuel ru cu acc) i j d := by
  fun_induction greedyMatch dist fuel ru cu acc with
  | case1 ru cu acc =>
    refine ⟨hq, fun i j d ha => ?_⟩
    obtain ⟨hi, hget⟩ := getElem_of_getD_false (hM.row ▸ (getD_map_isSome acc i).2 ha.1)
    exact List.count_eq_zero.1 (Nat.le_zero.1 hc) (List.mem_of_getElem hget)
  | case2 fuel ru cu acc hnone =>
    rw [argminEntry_eq, List.argmin_eq_none] at hnone
    exact ⟨hq, fun i j d ha => List.not_mem_nil (hnone ▸ hM.mem_entries.2 ha)⟩
  | case3 fuel ru cu acc i j d hsome ih =>
    rw [argminEntry_eq] at hsome
    have hmem := List.argmin_mem hsome
    have ha := hM.mem_entries.1 hmem
    have hc' := count_set_true ((mem_entries dist ru cu i j d).1 hmem).1
    exact ih (hM.step ha.1)
      (hQ acc i j d hq ha fun i' j' d' ha' =>
        List.le_of_mem_argmin (f := (·.2.2)) (hM.mem_entries.2 ha') hsome) (by omega)

theorem greedy_induct (Q : List (Option (Nat × Rat)) → Prop)
    (h0 : Q (List.replicate n none))
    (hQ : ∀ acc i j d, Q acc → Avail dist m acc i j d → (∀ i' j' d', Avail dist m acc i' j' d' → d ≤ d') →
      Q (acc.set i (some (j, d)))) :
    Q (greedyRun dist n m) ∧ ∀ i j d, ¬ Avail dist m (greedyRun dist n m) i j d :=
  greedyMatch_induct Q hQ _ _ _ _ (Masks.init n m) h0 (by rw [List.count_replicate]; simp)

/-- a partial assignment of columns to the `n` rows: entries of the matrix, no column twice -/
structure Matching (dist : List (List (Option Rat))) (n m : Nat) (g : List (Option (Nat × Rat))) : Prop where
  len : g.length = n
  ent : ∀ {i j : Nat} {d : Rat}, g[i]? = some (some (j, d)) → j < m ∧ (dist.getD i []).getD j none = some d
  inj : ∀ {i i' j : Nat} {d d' : Rat}, g[i]? = some (some (j, d)) → g[i']? = some (some (j, d')) → i = i'

theorem Matching.set {i j d} (h : Matching dist n m acc) (ha : Avail dist m acc i j d) :
    Matching dist n m (acc.set i (some (j, d))) := by
  obtain ⟨hi, hjm, hfree, hd⟩ := ha
  refine ⟨by rw [List.length_set, h.len], fun h' => ?_, fun h1 h2 => ?_⟩
  · rcases (getElem?_set_some hi).1 h' with ⟨rfl, he⟩ | h'
    · cases he; exact ⟨hjm, hd⟩
    · exact h.ent h'
  · rcases (getElem?_set_some hi).1 h1 with ⟨rfl, he1⟩ | g1 <;>
      rcases (getElem?_set_some hi).1 h2 with ⟨rfl, he2⟩ | g2
    · rfl
    · cases he1; exact absurd g2 (hfree _ _)
    · cases he2; exact absurd g1 (hfree _ _)
    · exact h.inj g1 g2

theorem greedy_matching (dist : List (List (Option Rat))) (n m : Nat) : Matching dist n m (greedyRun dist n m) :=
  (greedy_induct (Matching dist n m)
    ⟨List.length_replicate, fun h => absurd h getElem?_replicate_none,
      fun h => absurd h getElem?_replicate_none⟩
    fun _ _ _ _ h ha _ => h.set ha).1

/-- the loop stops only when nothing is left to take -/
theorem greedy_maximal {i j : Nat} {d : Rat} : ¬ Avail dist m (greedyRun dist n m) i j d :=
  (greedy_induct (fun _ => True) trivial fun _ _ _ _ _ _ _ => trivial).2 i j d

end loop

/-! ### the distance matrix -/

theorem relDist_some (a b : Rat) (ha : a ≠ 0) : relDist (some a) (some b) = some (|a - b| / a) := by
  simp only [relDist]
  rw [if_neg ha]
  congr 2
  split
  · rename_i h; rw [abs_of_neg h, neg_sub]
  · rename_i h; rw [abs_of_nonneg (not_lt.1 h)]

theorem distOf_entry {srcW refW : List (Option Rat)} {i j : Nat} {a b : Rat} (hi : srcW[i]? = some (some a))
    (hj : refW[j]? = some (some b)) (ha : a ≠ 0) :
    ((distOf srcW refW).getD i []).getD j none = some (|a - b| / a) := by
  simp [distOf, List.getD_eq_getElem?_getD, hi, hj, relDist_some a b ha]

/-! ### the two stages of `matchBands` -/

theorem toRef_getElem?_some {refB : List Nat} {g : List (Option (Nat × Rat))} {i x : Nat} :
    (toRef refB g)[i]? = some (some x) ↔ ∃ j d, g[i]? = some (some (j, d)) ∧ refB.getD j 0 = x := by
  simp only [toRef, List.getElem?_map, Option.map_eq_some_iff]
  constructor
  · rintro ⟨_, he, ⟨j, d⟩, rfl, h⟩; exact ⟨j, d, he, h⟩
  · rintro ⟨j, d, he, h⟩; exact ⟨_, he, (j, d), rfl, h⟩

theorem toRef_getElem?_none (refB : List Nat) (g : List (Option (Nat × Rat))) (i : Nat)
    (h : (toRef refB g)[i]? = some none) : g[i]? = some none := by
  simp only [toRef, List.getElem?_map, Option.map_eq_some_iff] at h
  obtain ⟨e, he, h⟩ := h
  cases e with
  | none => exact he
  | some e => simp at h

theorem npAny_of_ne_zero {ws : List (Option Rat)} {i : Nat} {a : Rat} (h : ws[i]? = some (some a)) (ha : a ≠ 0) :
    npAny ws = true := by
  simp only [npAny, List.any_eq_true]
  exact ⟨some a, List.mem_of_getElem? h, by simpa using ha⟩

theorem npAny_false {ws : List (Option ℚ)} (h : npAny ws = false) {w : Option ℚ} (hw : w ∈ ws) : w = some 0 := by
  simp only [npAny, List.any_eq_false] at h
  have := h w hw
  cases w with
  | none => simp at this
  | some q => simpa using this

/-- what both stages guarantee of their list -/
structure MbOut (n : Nat) (refB : List Nat) (mb : List (Option Nat)) : Prop where
  len : mb.length = n
  sub : ∀ x, some x ∈ mb → x ∈ refB
  nodup : refB.Nodup → (mb.filterMap id).Nodup

theorem mem_unmatchRef {refB : List Nat} {mb : List (Option Nat)} {x : Nat} :
    x ∈ unmatchRef refB mb ↔ x ∈ refB ∧ some x ∉ mb := by
  simp [unmatchRef]

theorem count_matched_le (refB : List Nat) (mb : List (Option Nat)) (hnd : refB.Nodup) :
    (refB.filter fun b => mb.contains (some b)).length ≤ (mb.filter Option.isSome).length := by
  have h1 : ((refB.filter fun b => mb.contains (some b)).map some).Nodup :=
    (hnd.filter _).map (Option.some_injective _)
  have h2 : ((refB.filter fun b => mb.contains (some b)).map some) ⊆ mb.filter Option.isSome := by
    intro x hx
    simp only [List.mem_map, List.mem_filter] at hx
    obtain ⟨b, ⟨_, hb⟩, rfl⟩ := hx
    simp only [List.mem_filter, Option.isSome_some, and_true]
    simpa using hb
  simpa using (List.subperm_of_subset h1 h2).length_le

section stages
variable {n m : Nat} {srcB refB : List Nat} {srcW refW : List (Option Rat)} {force : Bool} {tol : Rat}
  {mb mb2 : List (Option Nat)}

theorem toRef_mbOut {dist g} (hg : Matching dist n refB.length g) : MbOut n refB (toRef refB g) := by
  refine ⟨by rw [toRef, List.length_map, hg.len], fun x hx => ?_, fun hnd => ?_⟩
  · obtain ⟨i, hi⟩ := List.getElem?_of_mem hx
    obtain ⟨j, d, hg', rfl⟩ := toRef_getElem?_some.1 hi
    exact List.getD_eq_getElem refB 0 (hg.ent hg').1 ▸ List.getElem_mem _
  · refine nodup_filterMap_of_index_inj _ fun i i' x h1 h2 => ?_
    obtain ⟨j, d, hg1, rfl⟩ := toRef_getElem?_some.1 h1
    obtain ⟨j', d', hg2, he⟩ := toRef_getElem?_some.1 h2
    cases getD_inj_of_nodup hnd (hg.ent hg2).1 (hg.ent hg1).1 he
    exact hg.inj hg1 hg2

theorem stage1_cases (h : stage1 n srcW refB refW force tol = .ok mb) :
    (mb = List.replicate n none ∧ ¬(npAny srcW = true ∧ npAny refW = true ∧ force = false)) ∨
    (mb = toRef refB (greedyRun (distOf srcW refW) n refB.length) ∧
      ∀ (j : Nat) (d : Rat), some (j, d) ∈ greedyRun (distOf srcW refW) n refB.length → d ≤ tol) := by
  unfold stage1 at h
  split at h
  · split at h
    · cases h
    · rename_i hany
      cases h
      exact .inr ⟨rfl, fun j d hm =>
        not_lt.1 fun hlt => List.any_eq_false.1 (Bool.not_eq_true _ ▸ hany) _ hm (decide_eq_true hlt)⟩
  · rename_i hc
    cases h
    exact .inl ⟨rfl, by simpa [Bool.and_eq_true, and_assoc] using hc⟩

theorem stage1_mbOut (h : stage1 n srcW refB refW force tol = .ok mb) : MbOut n refB mb := by
  rcases stage1_cases h with ⟨rfl, _⟩ | ⟨rfl, _⟩
  · refine ⟨List.length_replicate, fun x hx => ?_, fun _ => ?_⟩
    · cases List.eq_of_mem_replicate hx
    · rw [List.filterMap_replicate_of_none rfl]; exact List.nodup_nil
  · exact toRef_mbOut (greedy_matching ..)

theorem stage2_cases (h : stage2 n m refB force mb = .ok mb2) :
    (mb2 = mb ∧ min n m ≤ (mb.filter Option.isSome).length) ∨
    (mb2 = fillNone mb (unmatchRef refB mb) ∧ (n = m ∨ force = true)) := by
  unfold stage2 at h
  split at h
  · split at h
    · rename_i hnm; cases h; exact .inr ⟨rfl, .inl hnm⟩
    · split at h
      · rename_i hf; cases h; exact .inr ⟨rfl, .inr hf⟩
      · cases h
  · rename_i hlt; cases h; exact .inl ⟨rfl, not_lt.1 hlt⟩

theorem stage2_map_some {R : List Nat} (hR : R.length = n) :
    stage2 n m refB force (R.map some) = .ok (R.map some) := by
  have : (R.map some).filter Option.isSome = R.map some :=
    List.filter_eq_self.2 fun a ha => by obtain ⟨x, _, rfl⟩ := List.mem_map.1 ha; rfl
  rw [stage2, this, List.length_map, hR, if_neg (by omega)]

theorem stage2_mbOut (hmb : MbOut n refB mb) (h : stage2 n m refB force mb = .ok mb2) : MbOut n refB mb2 := by
  rcases stage2_cases h with ⟨rfl, _⟩ | ⟨rfl, _⟩
  · exact hmb
  · refine ⟨by rw [fillNone_length, hmb.len], fun x hx => ?_, fun hnd => ?_⟩
    · exact (fillNone_mem hx).elim (hmb.sub _) fun h => (mem_unmatchRef.1 h).1
    · exact fillNone_nodup (hmb.nodup hnd) (hnd.filter _) fun v hv => (mem_unmatchRef.1 hv).2

theorem stage2_getElem? (h : stage2 n m refB force mb = .ok mb2) {i x : Nat} (hx : mb2[i]? = some (some x)) :
    mb[i]? = some (some x) ∨ mb[i]? = some none ∧ some x ∉ mb := by
  rcases stage2_cases h with ⟨rfl, _⟩ | ⟨rfl, _⟩
  · exact .inl hx
  · exact (fillNone_getElem? hx).imp_right (And.imp_right fun h => (mem_unmatchRef.1 h).2)

/-- unforced, the second stage leaves no gap: the unmatched reference bands are at least as many as the gaps -/
theorem stage2_all_some (hnm : n ≤ refB.length) (hnd : refB.Nodup) (hmb : MbOut n refB mb)
    (h : stage2 n refB.length refB false mb = .ok mb2) : ∀ x ∈ mb2, x.isSome = true := by
  rcases stage2_cases h with ⟨rfl, hle⟩ | ⟨rfl, hnm'⟩
  · rw [Nat.min_eq_left hnm, ← hmb.len] at hle
    exact List.length_filter_eq_length_iff.1 (Nat.le_antisymm (List.length_filter_le _ _) hle)
  · apply fillNone_all_some
    have h1 := count_matched_le refB mb hnd
    have h2 := List.length_eq_length_filter_add (l := refB) fun b => mb.contains (some b)
    have : n = refB.length := by simpa using hnm'
    rw [hmb.len, unmatchRef]; omega

/-! ### successful runs -/

theorem matchBands_ok {S R : List Nat} (h : matchBands srcB srcW refB refW force tol = .ok (S, R)) :
    (force = false → srcB.length ≤ refB.length) ∧
    ∃ mb mb2, stage1 srcB.length srcW refB refW force tol = .ok mb ∧
      stage2 srcB.length refB.length refB force mb = .ok mb2 ∧ MbOut srcB.length refB mb2 ∧
      S = (pairsOf srcB mb2).map (·.1) ∧ R = (pairsOf srcB mb2).map (·.2) := by
  rw [matchBands_eq] at h
  split at h
  · cases h
  · rename_i hc
    refine ⟨fun hf => by subst hf; simpa using hc, ?_⟩
    split at h
    · cases h
    · rename_i mb h1
      split at h
      · cases h
      · rename_i mb2 h2
        cases h
        exact ⟨mb, mb2, h1, h2, stage2_mbOut (stage1_mbOut h1) h2, rfl, rfl⟩

theorem matchBands_ok_unforced {S R : List Nat} (hnd : refB.Nodup)
    (h : matchBands srcB srcW refB refW false tol = .ok (S, R)) :
    ∃ mb, stage1 srcB.length srcW refB refW false tol = .ok mb ∧
      stage2 srcB.length refB.length refB false mb = .ok (R.map some) ∧ S = srcB ∧ R.length = srcB.length := by
  obtain ⟨hnm, mb, mb2, h1, h2, hout, rfl, rfl⟩ := matchBands_ok h
  have hall := stage2_all_some (hnm rfl) hnd (stage1_mbOut h1) h2
  have hlen := hout.len
  rw [eq_map_some_of_all_some hall] at h2 hlen ⊢
  rw [List.length_map] at hlen
  rw [pairsOf_map_some, List.map_fst_zip hlen.ge, List.map_snd_zip hlen.le]
  exact ⟨mb, h1, h2, rfl, hlen⟩

/-- Unforced, a pair of bands that both have a wavelength is within tolerance.  If the greedy pass made it, it
    passed the threshold; the fallback cannot have made it, since the greedy pass stops only when no free row and free
    column have a distance.  (Position `i` of `R` goes with `srcB[i]`: `S = srcB`.) -/
theorem matchBands_within_tol {S R : List Nat} (hnd : refB.Nodup) (hrany : npAny refW = true)
    (h : matchBands srcB srcW refB refW false tol = .ok (S, R))
    {i j : Nat} {a b : ℚ} (hj : j < refB.length) (ha : 0 < a) (hR : R[i]? = some (refB.getD j 0))
    (hwi : srcW[i]? = some (some a)) (hwj : refW[j]? = some (some b)) : |a - b| ≤ tol * a := by
  obtain ⟨mb, h1, h2, -, -⟩ := matchBands_ok_unforced hnd h
  have hent := distOf_entry hwi hwj ha.ne'
  have hg := greedy_matching (distOf srcW refW) srcB.length refB.length
  rcases stage1_cases h1 with ⟨_, hno⟩ | ⟨rfl, htol⟩
  · exact absurd ⟨npAny_of_ne_zero hwi ha.ne', hrany, rfl⟩ hno
  · rcases stage2_getElem? h2 (i := i) (by rw [List.getElem?_map, hR]; rfl) with hmb | ⟨hmb, hun⟩
    · obtain ⟨j', d, hgi, he⟩ := toRef_getElem?_some.1 hmb
      obtain ⟨hj', hd⟩ := hg.ent hgi
      cases getD_inj_of_nodup hnd hj' hj he
      cases hent.symm.trans hd
      exact (div_le_iff₀ ha).1 (htol j _ (List.mem_of_getElem? hgi))
    · refine (greedy_maximal ⟨toRef_getElem?_none _ _ _ hmb, hj,
        fun i' d' hc => hun (List.mem_of_getElem? (toRef_getElem?_some.2 ⟨j, d', hc, rfl⟩)), hent⟩).elim

end stages

/-! ### nearest band wins -/

/-- if every row of a full matrix has a strictly least column and these columns are distinct, the loop assigns exactly
    them: the least column of the row it picks is still free (only that column's own row could have taken it), so any
    other column of the row would not be a least entry -/
theorem greedy_nearest {dist : List (List (Option ℚ))} {n m : Nat} (dv : Nat → Nat → ℚ)
    (hdv : ∀ i j, i < n → j < m → (dist.getD i []).getD j none = some (dv i j))
    (assign : Nat → Nat) (hin : ∀ i, i < n → assign i < m)
    (hinj : ∀ i i', i < n → i' < n → assign i = assign i' → i = i')
    (hnear : ∀ i j, i < n → j < m → j ≠ assign i → dv i (assign i) < dv i j) :
    greedyRun dist n m = (List.range n).map fun i => some (assign i, dv i (assign i)) := by
  have hg := greedy_matching dist n m
  -- under the invariant, the least column of an unassigned row is free
  have key : ∀ acc : List (Option (Nat × ℚ)), acc.length = n →
      (∀ (i j : Nat) (d : ℚ), acc[i]? = some (some (j, d)) → j = assign i) → ∀ i, acc[i]? = some none →
      Avail dist m acc i (assign i) (dv i (assign i)) := by
    intro acc hlen hq i hi
    have hin' : i < n := hlen ▸ (List.getElem?_eq_some_iff.1 hi).1
    refine ⟨hi, hin i hin', fun i2 d2 h2 => ?_, hdv i _ hin' (hin i hin')⟩
    cases hinj _ _ (hlen ▸ (List.getElem?_eq_some_iff.1 h2).1) hin' (hq _ _ _ h2).symm
    cases hi.symm.trans h2
  obtain ⟨⟨-, hq⟩, -⟩ := greedy_induct (dist := dist) (n := n) (m := m)
    (fun acc => acc.length = n ∧ ∀ (i j : Nat) (d : ℚ), acc[i]? = some (some (j, d)) → j = assign i)
    ⟨List.length_replicate, fun _ _ _ h => absurd h getElem?_replicate_none⟩
    (by
      rintro acc i j d ⟨hlen, hq⟩ ⟨hi, hjm, hfree, hd⟩ hmin
      refine ⟨by rw [List.length_set, hlen], fun i' j' d' h' => ?_⟩
      rcases (getElem?_set_some hi).1 h' with ⟨rfl, he⟩ | h'
      · cases he
        have hin' : i' < n := hlen ▸ (List.getElem?_eq_some_iff.1 hi).1
        by_contra hne
        cases (hdv i' j hin' hjm).symm.trans hd
        exact absurd (hnear i' j hin' hjm hne) (not_lt.2 (hmin _ _ _ (key acc hlen hq i' hi)))
      · exact hq _ _ _ h')
  refine List.ext_getElem (by rw [hg.len, List.length_map, List.length_range]) fun i hlt _ => ?_
  have hi : i < n := hg.len ▸ hlt
  rw [List.getElem_map, List.getElem_range]
  rcases hgi : (greedyRun dist n m)[i] with _ | ⟨j, d⟩
  · exact (greedy_maximal (key _ hg.len hq i (List.getElem?_eq_some_iff.2 ⟨hlt, hgi⟩))).elim
  · have hgi' := List.getElem?_eq_some_iff.2 ⟨hlt, hgi⟩
    cases hq _ _ _ hgi'
    cases (hdv i _ hi (hin i hi)).symm.trans (hg.ent hgi').2
    rfl

end Homonim
