/-
  Floor / ceiling / round-half-even division by a positive divisor, tilings by a monotone boundary sequence, and the
  input and output windows of one block.
-/
import Homonim.Model.Geom
import Homonim.Model.Blocks
import Mathlib.Tactic.Linarith
import Mathlib.Tactic.Ring
import Mathlib.Algebra.Order.Ring.Int

namespace Homonim

/-! ### ceiling and floor division

  `cdiv_le_iff` / `lt_cdiv_iff` are to `cdiv` what `Int.le_ediv_iff_mul_le` / `Int.ediv_lt_iff_lt_mul` are to `/`;
  `fdiv_mul_le` / `fdiv_mul_gt` are core lemmas in the form of their `cdiv` counterparts. -/

theorem cdiv_le_iff {a d k : Int} (hd : 0 < d) : cdiv a d ≤ k ↔ a ≤ k * d := by
  rw [cdiv, neg_le, Int.le_ediv_iff_mul_le hd, Int.neg_mul, Int.neg_le_neg_iff]

theorem lt_cdiv_iff {a d k : Int} (hd : 0 < d) : k < cdiv a d ↔ k * d < a := by
  rw [← Int.not_le, cdiv_le_iff hd, Int.not_le]

theorem cdiv_mul_ge (a d : Int) (hd : 0 < d) : a ≤ cdiv a d * d := (cdiv_le_iff hd).mp (Int.le_refl _)

theorem cdiv_mul_lt (a d : Int) (hd : 0 < d) : (cdiv a d - 1) * d < a :=
  (lt_cdiv_iff hd).mp (Int.sub_one_lt_iff.mpr (Int.le_refl _))

theorem fdiv_mul_le (a d : Int) (hd : 0 < d) : a / d * d ≤ a := Int.ediv_mul_le a (Int.ne_of_gt hd)

theorem fdiv_mul_gt (a d : Int) (hd : 0 < d) : a < (a / d + 1) * d := Int.lt_ediv_add_one_mul_self a hd

theorem cdiv_mono (a b d : Int) (hd : 0 < d) (h : a ≤ b) : cdiv a d ≤ cdiv b d :=
  (cdiv_le_iff hd).mpr (Int.le_trans h (cdiv_mul_ge b d hd))

theorem fdiv_le_cdiv (a d : Int) (hd : 0 < d) : a / d ≤ cdiv a d :=
  Int.le_of_mul_le_mul_right (Int.le_trans (fdiv_mul_le a d hd) (cdiv_mul_ge a d hd)) hd

/-! ### round half to even -/

/-- the definition of `rhe` as a case distinction: down below the half and at a half over an even floor, up otherwise -/
theorem rhe_cases (a d : Int) :
    rhe a d = a / d ∧ (2 * (a % d) < d ∨ 2 * (a % d) = d ∧ a / d % 2 = 0) ∨
    rhe a d = a / d + 1 ∧ (d < 2 * (a % d) ∨ 2 * (a % d) = d ∧ a / d % 2 = 1) := by
  unfold rhe
  simp only
  split_ifs with h1 h2 h3
  · exact Or.inl ⟨rfl, Or.inl h1⟩
  · exact Or.inr ⟨rfl, Or.inl h2⟩
  · exact Or.inl ⟨rfl, Or.inr ⟨by omega, h3⟩⟩
  · exact Or.inr ⟨rfl, Or.inr ⟨by omega, by omega⟩⟩

theorem rhe_bounds (n d : Int) (hd : 0 < d) : n / d ≤ rhe n d ∧ rhe n d ≤ n / d + 1 := by
  have := rhe_cases n d
  omega

/-- `rhe a d` is a nearest integer to `a / d`: `2·|rhe a d · d - a| ≤ d` -/
theorem rhe_within_half (a d : Int) (hd : 0 < d) : 2 * (rhe a d * d - a) ≤ d ∧ -d ≤ 2 * (rhe a d * d - a) := by
  have h1 := Int.emod_add_mul_ediv a d
  have h2 := Int.emod_nonneg a (Int.ne_of_gt hd)
  have h3 := Int.emod_lt_of_pos a hd
  rcases rhe_cases a d with ⟨h, _⟩ | ⟨h, _⟩ <;> rw [h]
  · rw [Int.mul_comm (a / d) d]; omega
  · rw [Int.add_mul, Int.one_mul, Int.mul_comm (a / d) d]; omega

/-- Monotone because nearest: for `n < m`, `2 · rhe n d · d ≤ 2n + d < 2m + d ≤ 2 · rhe m d · d + 2d`, so
    `rhe n d < rhe m d + 1`. -/
theorem rhe_mono (n m d : Int) (hd : 0 < d) (h : n ≤ m) : rhe n d ≤ rhe m d := by
  rcases Int.lt_or_eq_of_le h with hlt | rfl
  · have hn := (rhe_within_half n d hd).1
    have hm := (rhe_within_half m d hd).2
    have : rhe n d * d < (rhe m d + 1) * d := by rw [Int.add_mul]; omega
    exact Int.lt_add_one_iff.mp (Int.lt_of_mul_lt_mul_right this (Int.le_of_lt hd))
  · exact Int.le_refl _

/-- rounding an exact multiple is exact -/
theorem rhe_mul (k d : Int) (hd : 0 < d) : rhe (k * d) d = k := by
  have := rhe_cases (k * d) d
  rw [Int.mul_ediv_cancel k (Int.ne_of_gt hd), Int.mul_emod_left] at this
  omega

/-- rounding never moves past a whole pixel boundary: `a ≤ k*d → rhe a d ≤ k` -/
theorem rhe_le_of_le_mul {a d k : Int} (hd : 0 < d) (h : a ≤ k * d) : rhe a d ≤ k :=
  rhe_mul k d hd ▸ rhe_mono a (k * d) d hd h

theorem le_rhe_of_mul_le {a d k : Int} (hd : 0 < d) (h : k * d ≤ a) : k ≤ rhe a d :=
  rhe_mul k d hd ▸ rhe_mono (k * d) a d hd h

theorem rhe_le_cdiv (a d : Int) (hd : 0 < d) : rhe a d ≤ cdiv a d := rhe_le_of_le_mul hd (cdiv_mul_ge a d hd)

/-! ### tilings -/

/-- windows `[g k, g (k+1))` of a monotone integer sequence tile `[g 0, g K)` -/
theorem tile_of_mono (g : Nat → Int) (hg : ∀ k, g k ≤ g (k + 1)) (K : Nat) (x : Int) (h0 : g 0 ≤ x)
    (hK : x < g K) : ∃ k, k < K ∧ g k ≤ x ∧ x < g (k + 1) := by
  induction K with
  | zero => omega
  | succ K ih =>
    by_cases hx : x < g K
    · obtain ⟨k, hk, h1, h2⟩ := ih hx; exact ⟨k, by omega, h1, h2⟩
    · exact ⟨K, by omega, by omega, hK⟩

/-- the windows of a monotone sequence are pairwise disjoint: `g i ≤ x < g (j + 1)` makes `i < j + 1` -/
theorem tile_unique (g : Nat → Int) (hg : ∀ k, g k ≤ g (k + 1)) (i j : Nat) (x : Int)
    (hi : g i ≤ x ∧ x < g (i + 1)) (hj : g j ≤ x ∧ x < g (j + 1)) : i = j :=
  have hm := monotone_nat_of_le_succ hg
  le_antisymm (Nat.lt_succ_iff.mp (hm.reflect_lt (lt_of_le_of_lt hi.1 hj.2)))
    (Nat.lt_succ_iff.mp (hm.reflect_lt (lt_of_le_of_lt hj.1 hi.2)))

/-- **Partition by a boundary sequence**: windows `w k = [g k, g (k+1))`, `k < K`, of a monotone sequence `g` hold every
    `x` of `[g 0, g K)` exactly once.  Every partition statement about blocks is this one, for the boundary sequence of
    the kind of window it speaks of. -/
theorem tile_existsUnique (g : Nat → Int) (hg : ∀ k, g k ≤ g (k + 1)) (K : Nat) (w : Nat → Win1)
    (hw : ∀ k, k < K → w k = ⟨g k, g (k + 1)⟩) (x : Int) (hx : g 0 ≤ x ∧ x < g K) :
    ∃! k, k < K ∧ (w k).mem x := by
  obtain ⟨k, hk, hkx⟩ := tile_of_mono g hg K x hx.1 hx.2
  refine ⟨k, ⟨hk, hw k hk ▸ hkx⟩, ?_⟩
  rintro j ⟨hj, hjx⟩
  rw [hw j hj] at hjx
  exact tile_unique g hg j k x hjx hkx

/-! ### windows -/

theorem Win1.mem_inter (a b : Win1) (x : Int) : (a.inter b).mem x ↔ a.mem x ∧ b.mem x := by
  unfold Win1.inter Win1.mem
  rw [max_le_iff, lt_min_iff, and_and_and_comm]

theorem toOther_mono (P O : Axis) (hP : 0 ≤ P.p) {x y : Int} (h : x ≤ y) : toOther P O x ≤ toOther P O y := by
  unfold toOther Axis.edge
  have := Int.mul_le_mul_of_nonneg_right h hP
  omega

/-- the rounded image of a window lies inside the expanded image of any window containing it: `⌊a/d⌋ ≤ rhe a d ≤ ⌈a/d⌉`,
    and floor and ceiling are monotone -/
theorem roundTo_subset_expandTo (P O : Axis) (hP : 0 < P.p) (hO : 0 < O.p) (wi wo : Win1)
    (hsub : wi.lo ≤ wo.lo ∧ wo.hi ≤ wi.hi) :
    (expandTo P O wi).lo ≤ (roundTo P O wo).lo ∧ (roundTo P O wo).hi ≤ (expandTo P O wi).hi :=
  ⟨le_trans (Int.ediv_le_ediv hO (toOther_mono P O hP.le hsub.1)) (rhe_bounds _ _ hO).1,
    le_trans (rhe_le_cdiv _ _ hO) (cdiv_mono _ _ _ hO (toOther_mono P O hP.le hsub.2))⟩

/-- block `k` exists iff its corner lies before the end of the processing window -/
theorem lt_nBlocks_iff (A B s : Int) (hs : 0 < s) (k : Nat) : k < nBlocks A B s ↔ A + k * s < B := by
  rw [nBlocks, Int.lt_toNat, lt_cdiv_iff hs]
  omega

/-- the processing input window contains the processing output window -/
theorem in_contains_out_plus_overlap_aux (A B s v : Int) (hv : 0 ≤ v) (k : Nat) :
    (procIn A B s v k).lo ≤ (procOut A B s v k).lo ∧ (procOut A B s v k).hi ≤ (procIn A B s v k).hi :=
  ⟨max_le_max_right A (Int.le_add_of_nonneg_right hv), min_le_min_right B (Int.sub_le_self _ hv)⟩

/-- growing the output window by the overlap gives back the block's own corners; the second clip absorbs the first -/
theorem in_contains_out_plus_overlap_eq (A B s v : Int) (hv : 0 ≤ v) (k : Nat) :
    procIn A B s v k = ⟨max ((procOut A B s v k).lo - v) A, min ((procOut A B s v k).hi + v) B⟩ := by
  unfold procIn procOut
  simp only
  rw [← Int.sub_max_sub_right, Int.add_sub_cancel, max_assoc, max_eq_right (Int.sub_le_self A hv),
    ← Int.min_add_right, Int.sub_add_cancel, min_assoc, min_eq_right (Int.le_add_of_nonneg_right hv)]

end Homonim
