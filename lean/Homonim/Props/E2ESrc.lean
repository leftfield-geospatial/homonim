/-
  E2ESrc — end-to-end block transparency for source-grid processing (serves C05).
-/
import Homonim.Lemmas.SrcGrid
namespace Homonim

/- ORIGINAL STATEMENT (false as written: it had `hsrc` but no positivity of the pixel sizes):

   theorem correctedSrcGrid_eq_on (p : ImagePair) (model : Model) (kh kw : Nat) (n0 n1 : Rat) (m : Resampling) (r c : Int)
       (hsrc : ∀ r c, ¬ (0 ≤ r ∧ r < p.Sr.n ∧ 0 ≤ c ∧ c < p.Sc.n) → p.src r c = none) :
       p.correctedSrcGrid model kh kw n0 n1 m r c
         = p.correctedSrcGridOn model kh kw n0 n1 m (srcWin p.Sr p.Rr) (srcWin p.Sc p.Rc)
             (expandTo p.Sr p.Rr (srcWin p.Sr p.Rr)) (expandTo p.Sc p.Rc (srcWin p.Sc p.Rc)) r c

   Counterexample (a degenerate source pixel size 0, so `srcWin` is empty and does not contain the source image):
   see `correctedSrcGrid_eq_on_needs_pos` below.  With positive pixel sizes `srcWin` contains the whole source image
   (`srcWin_covers_src`), and then `hsrc` is not needed: the pipeline never reads the source outside its image. -/

/-- the counterexample to the original statement: source pixel size 0 -/
def cexEqOn : ImagePair :=
  ⟨⟨1, 0, 1⟩, ⟨1, 0, 1⟩, ⟨0, 2, 1⟩, ⟨0, 2, 1⟩, fun r c => if r = 0 ∧ c = 0 then some 1 else none, fun _ _ => some 2⟩

theorem correctedSrcGrid_eq_on_needs_pos :
    (∀ r c, ¬ (0 ≤ r ∧ r < cexEqOn.Sr.n ∧ 0 ≤ c ∧ c < cexEqOn.Sc.n) → cexEqOn.src r c = none) ∧
    cexEqOn.correctedSrcGrid .gain 1 1 1 0 .nearest 0 0 = some 2 ∧
    cexEqOn.correctedSrcGridOn .gain 1 1 1 0 .nearest (srcWin cexEqOn.Sr cexEqOn.Rr) (srcWin cexEqOn.Sc cexEqOn.Rc)
      (expandTo cexEqOn.Sr cexEqOn.Rr (srcWin cexEqOn.Sr cexEqOn.Rr))
      (expandTo cexEqOn.Sc cexEqOn.Rc (srcWin cexEqOn.Sc cexEqOn.Rc)) 0 0 = none := by
  refine ⟨?_, by decide +kernel, by decide +kernel⟩
  intro r c h
  show (if r = 0 ∧ c = 0 then some (1 : Rat) else none) = none
  rw [if_neg]
  rintro ⟨rfl, rfl⟩
  exact h (by decide)

/-- the whole-image source-grid run is the pipeline on the whole source and the reference window it reads
    (pixel sizes positive; the hypothesis `hsrc` of the first draft is not needed) -/
theorem correctedSrcGrid_eq_on (p : ImagePair) (hSr : 0 < p.Sr.p) (hSc : 0 < p.Sc.p) (hRr : 0 < p.Rr.p) (hRc : 0 < p.Rc.p)
    (model : Model) (kh kw : Nat) (n0 n1 : Rat) (m : Resampling) (r c : Int) :
    p.correctedSrcGrid model kh kw n0 n1 m r c
      = p.correctedSrcGridOn model kh kw n0 n1 m (srcWin p.Sr p.Rr) (srcWin p.Sc p.Rc)
          (expandTo p.Sr p.Rr (srcWin p.Sr p.Rr)) (expandTo p.Sc p.Rc (srcWin p.Sc p.Rc)) r c := by
  have sa := srcWin_covers_src p.Sr p.Rr hSr hRr
  have sb := srcWin_covers_src p.Sc p.Rc hSc hRc
  have hsrc : ∀ a b : Int, 0 ≤ a ∧ a < p.Sr.n → 0 ≤ b ∧ b < p.Sc.n →
      (p.src.restrict (srcWin p.Sr p.Rr) (srcWin p.Sc p.Rc)) a b = p.src a b :=
    fun a b ha hb => p.src.restrict_of_mem (by omega) (by omega)
  have hpar : p.paramsSrcOf model kh kw n0 n1 m (p.src.restrict (srcWin p.Sr p.Rr) (srcWin p.Sc p.Rc)) p.refRead r c =
      p.paramsSrcOf model kh kw n0 n1 m p.src p.refRead r c :=
    imgParams_congr _ _ _ _ _ _ model kh kw n0 n1 r c fun a b ha hb _ _ => ⟨hsrc a b ha hb, fun _ => rfl⟩
  rw [ImagePair.correctedSrcGrid_eq, ImagePair.correctedSrcGridOn_eq, show p.ref.restrict _ _ = p.refRead from rfl, hpar]
  by_cases hin : 0 ≤ r ∧ r < p.Sr.n ∧ 0 ≤ c ∧ c < p.Sc.n
  · rw [hsrc r c ⟨hin.1, hin.2.1⟩ ⟨hin.2.2.1, hin.2.2.2⟩]
  · unfold ImagePair.paramsSrcOf imgParams correctedPxSrcGrid
    rw [if_neg hin]
    cases p.src r c <;> cases (p.src.restrict (srcWin p.Sr p.Rr) (srcWin p.Sc p.Rc)) r c <;> rfl

/-- **Blocking is transparent on the source grid** when the reference is brought to the source grid by `average` (the
    reference is the finer image - the automatic choice of the source grid) or by `nearest`: every source pixel of a block's
    output window gets from that block the value and validity of the single-block run.
    (The first draft also assumed the source to be `none` outside its image; that is not needed.) -/
theorem block_transparent_src_grid (p : ImagePair) (hSr : 0 < p.Sr.p) (hSc : 0 < p.Sc.p) (hRr : 0 < p.Rr.p) (hRc : 0 < p.Rc.p)
    (model : Model) (kh kw : Nat) (n0 n1 : Rat) (m : Resampling) (hm : m ≠ .bilinear)
    (sr sc vr vc : Int) (hvr : ((kh / 2 : Nat) : Int) + 1 ≤ vr) (hvc : ((kw / 2 : Nat) : Int) + 1 ≤ vc) (kr kc : Nat)
    (r c : Int) (hr : (p.blockRowsSrc sr vr kr).pout.lo ≤ r ∧ r < (p.blockRowsSrc sr vr kr).pout.hi)
    (hc : (p.blockColsSrc sc vc kc).pout.lo ≤ c ∧ c < (p.blockColsSrc sc vc kc).pout.hi) :
    p.correctedSrcGridByBlock model kh kw n0 n1 m sr sc vr vc kr kc r c = p.correctedSrcGrid model kh kw n0 n1 m r c :=
  have cr := p.blockRowsSrc_covers sr vr _ (by omega) hvr kr
  have cc := p.blockColsSrc_covers sc vc _ (by omega) hvc kc
  block_transparent_src_core p hSr hSc hRr hRc model kh kw n0 n1 m sr sc vr vc hvr hvc kr kc r c hr hc
    fun a b ain bin _ _ =>
      (resample2_restrict_expand m hm p.Sr p.Sc p.Rr p.Rc hSr hSc hRr hRc p.ref _ _ a b ain bin).trans
        (resample2_restrict_expand m hm p.Sr p.Sc p.Rr p.Rc hSr hSc hRr hRc p.ref _ _ a b
          (by have := cr.in_sub; omega) (by have := cc.in_sub; omega)).symm

/-- **Two partitions agree on the source grid** -/
theorem partitions_agree_src_grid (p : ImagePair) (hSr : 0 < p.Sr.p) (hSc : 0 < p.Sc.p) (hRr : 0 < p.Rr.p)
    (hRc : 0 < p.Rc.p) (model : Model) (kh kw : Nat) (n0 n1 : Rat) (m : Resampling) (hm : m ≠ .bilinear)
    (sr sc vr vc sr' sc' vr' vc' : Int)
    (hvr : ((kh / 2 : Nat) : Int) + 1 ≤ vr) (hvc : ((kw / 2 : Nat) : Int) + 1 ≤ vc)
    (hvr' : ((kh / 2 : Nat) : Int) + 1 ≤ vr') (hvc' : ((kw / 2 : Nat) : Int) + 1 ≤ vc')
    (kr kc kr' kc' : Nat) (r c : Int)
    (hr : (p.blockRowsSrc sr vr kr).pout.lo ≤ r ∧ r < (p.blockRowsSrc sr vr kr).pout.hi)
    (hc : (p.blockColsSrc sc vc kc).pout.lo ≤ c ∧ c < (p.blockColsSrc sc vc kc).pout.hi)
    (hr' : (p.blockRowsSrc sr' vr' kr').pout.lo ≤ r ∧ r < (p.blockRowsSrc sr' vr' kr').pout.hi)
    (hc' : (p.blockColsSrc sc' vc' kc').pout.lo ≤ c ∧ c < (p.blockColsSrc sc' vc' kc').pout.hi) :
    p.correctedSrcGridByBlock model kh kw n0 n1 m sr sc vr vc kr kc r c
      = p.correctedSrcGridByBlock model kh kw n0 n1 m sr' sc' vr' vc' kr' kc' r c := by
  rw [block_transparent_src_grid p hSr hSc hRr hRc model kh kw n0 n1 m hm sr sc vr vc hvr hvc kr kc r c hr hc,
    block_transparent_src_grid p hSr hSc hRr hRc model kh kw n0 n1 m hm sr' sc' vr' vc' hvr' hvc' kr' kc' r c hr' hc']

/-! ### `bilinear`

  The analogous statement for `m = bilinear` is FALSE in this model (see `block_transparent_src_grid_bilinear_false`
  below): the 2 x 2 bilinear support of a source pixel can reach a reference pixel that does not meet the block's input
  window `pin` (so it is outside `oin` = expandTo(pin) and the block sees it as nodata, weights renormalised) although the
  single-block run reads it.  With overlap = kernel radius + 1 this happens exactly when a reference pixel is more than
  3 source pixels long (`R.p > 3 * S.p`): the pixels of a kernel window centred in `pout` are at least one source pixel
  (1.5 pixels for their centres) inside `pin`, and a support pixel's near edge is less than `R.p / 2` from the centre.
  With `R.p ≤ 3 * S.p` along both axes the statement is true (`block_transparent_src_grid_bilinear`).
  A brute-force `#eval` sweep (S.p ∈ {1,2}, R.p ∈ 1..9, several origins / sizes / block lengths, kh ∈ {1,3}, every block
  and pixel) found mismatches for bilinear exactly at the ratios `R.p > 3 * S.p`, and none for nearest / average. -/

/-- **Blocking is transparent on the source grid with `bilinear`** provided a reference pixel is at most 3 source pixels
    long along each axis -/
theorem block_transparent_src_grid_bilinear (p : ImagePair) (hSr : 0 < p.Sr.p) (hSc : 0 < p.Sc.p) (hRr : 0 < p.Rr.p)
    (hRc : 0 < p.Rc.p) (hratr : p.Rr.p ≤ 3 * p.Sr.p) (hratc : p.Rc.p ≤ 3 * p.Sc.p)
    (model : Model) (kh kw : Nat) (n0 n1 : Rat)
    (sr sc vr vc : Int) (hvr : ((kh / 2 : Nat) : Int) + 1 ≤ vr) (hvc : ((kw / 2 : Nat) : Int) + 1 ≤ vc) (kr kc : Nat)
    (r c : Int) (hr : (p.blockRowsSrc sr vr kr).pout.lo ≤ r ∧ r < (p.blockRowsSrc sr vr kr).pout.hi)
    (hc : (p.blockColsSrc sc vc kc).pout.lo ≤ c ∧ c < (p.blockColsSrc sc vc kc).pout.hi) :
    p.correctedSrcGridByBlock model kh kw n0 n1 .bilinear sr sc vr vc kr kc r c
      = p.correctedSrcGrid model kh kw n0 n1 .bilinear r c :=
  block_transparent_src_core p hSr hSc hRr hRc model kh kw n0 n1 .bilinear sr sc vr vc hvr hvc kr kc r c hr hc
    fun a b ain bin hka hkb =>
      have ast := kernel_window_strictly_inside _ _ sr vr kh hvr kr r hr a hka
      have bst := kernel_window_strictly_inside _ _ sc vc kw hvc kc c hc b hkb
      bilinear2_restrict_agree p.Sr p.Sc p.Rr p.Rc hSr hSc hRr hRc hratr hratc p.ref _ _ (srcWin p.Sr p.Rr)
        (srcWin p.Sc p.Rc) (p.blockRowsSrc_covers sr vr _ (by omega) hvr kr).in_sub
        (p.blockColsSrc_covers sc vc _ (by omega) hvc kc).in_sub a b ain bin ast.1 ast.2 bst.1 bst.2

/-- the smallest counterexample found for `bilinear` (1 m source, 4 m reference, aligned origins; 5 x 1 source pixels,
    2 x 1 reference pixels; 1 x 1 kernel, so overlap 1 = kh/2 + 1; row blocks of 3, column blocks of 2): block (0, 0) has
    `pin` = rows [0, 4), `pout` = rows [0, 3), `oin` = reference row [0, 1).  The centre of source row 2 (2.5 m) lies
    between the centres of reference rows 0 and 1 (2 m, 6 m), so the single-block run interpolates
    (7 * 1 + 1 * 2) / 8 = 9/8, whereas the block sees reference row 1 (4 m .. 8 m, not meeting `pin` = 0 m .. 4 m) as nodata
    and gets 1. -/
def cexBilinear : ImagePair :=
  ⟨⟨0, 1, 5⟩, ⟨0, 1, 1⟩, ⟨0, 4, 2⟩, ⟨0, 1, 1⟩,
    fun r c => if 0 ≤ r ∧ r < 5 ∧ c = 0 then some 1 else none,
    fun i j => if j = 0 then (if i = 0 then some 1 else if i = 1 then some 2 else none) else none⟩

/-- **`block_transparent_src_grid` is false for `bilinear`** (all its other hypotheses hold) -/
theorem block_transparent_src_grid_bilinear_false :
    let p := cexBilinear
    (0 < p.Sr.p ∧ 0 < p.Sc.p ∧ 0 < p.Rr.p ∧ 0 < p.Rc.p) ∧
    (((1 / 2 : Nat) : Int) + 1 ≤ 1) ∧ 0 < nBlocks (srcWin p.Sr p.Rr).lo (srcWin p.Sr p.Rr).hi 3 ∧
    ((p.blockRowsSrc 3 1 0).pout.lo ≤ 2 ∧ 2 < (p.blockRowsSrc 3 1 0).pout.hi) ∧
    ((p.blockColsSrc 2 1 0).pout.lo ≤ 0 ∧ 0 < (p.blockColsSrc 2 1 0).pout.hi) ∧
    p.correctedSrcGridByBlock .gain 1 1 1 0 .bilinear 3 2 1 1 0 0 2 0 = some 1 ∧
    p.correctedSrcGrid .gain 1 1 1 0 .bilinear 2 0 = some (9 / 8) := by
  decide +kernel

/-  `#eval` check of the counterexample (output of Lean 4 on these lines):
      #eval (srcWin cexBilinear.Sr cexBilinear.Rr, cexBilinear.blockRowsSrc 3 1 0, cexBilinear.blockColsSrc 2 1 0)
        -- ({ lo := 0, hi := 8 },
        --  { pin := { lo := 0, hi := 4 }, pout := { lo := 0, hi := 3 }, oin := { lo := 0, hi := 1 }, oout := .. },
        --  { pin := { lo := 0, hi := 1 }, pout := { lo := 0, hi := 1 }, oin := { lo := 0, hi := 1 }, oout := .. })
      #eval cexBilinear.correctedSrcGridByBlock .gain 1 1 1 0 .bilinear 3 2 1 1 0 0 2 0   -- some 1
      #eval cexBilinear.correctedSrcGrid .gain 1 1 1 0 .bilinear 2 0                       -- some (9 : Rat)/8
      #eval cexBilinear.correctedSrcGridByBlock .gain 1 1 1 0 .nearest 3 2 1 1 0 0 2 0    -- some 1
      #eval cexBilinear.correctedSrcGrid .gain 1 1 1 0 .nearest 2 0                        -- some 1
      #eval cexBilinear.correctedSrcGridByBlock .gain 1 1 1 0 .average 3 2 1 1 0 0 2 0    -- some 1
      #eval cexBilinear.correctedSrcGrid .gain 1 1 1 0 .average 2 0                        -- some 1
-/

/-! non-vacuity of the geometric hypotheses of `block_transparent_src_grid`: 0.4 m source on a 0.8 m reference at a
    half-pixel offset, 3 x 3 kernel, overlap 2, block length 5: block 1 is a real block and source row / column 8 (next to the
    seam with block 2) is in its output window -/
example :
    let p : ImagePair := ⟨⟨13, 4, 31⟩, ⟨13, 4, 31⟩, ⟨1, 8, 20⟩, ⟨1, 8, 20⟩, fun _ _ => none, fun _ _ => none⟩
    1 < nBlocks (srcWin p.Sr p.Rr).lo (srcWin p.Sr p.Rr).hi 5 ∧ ((3 / 2 : Nat) : Int) + 1 ≤ 2 ∧
      (p.blockRowsSrc 5 2 1).pout.lo ≤ 8 ∧ 8 < (p.blockRowsSrc 5 2 1).pout.hi ∧
      (p.blockColsSrc 5 2 1).pout.lo ≤ 8 ∧ 8 < (p.blockColsSrc 5 2 1).pout.hi := by decide


end Homonim
