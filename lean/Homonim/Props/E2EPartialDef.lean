/-
  E2EPartialDef — the partial mask of the whole-image model equals the property's definition (serves C17).

  The statement first proposed for `partial_valid_iff_definition` (without `hsrc`) is FALSE
  (`partial_valid_iff_definition_needs_src_extent` below): `coverRef` reads the source lookup `p.src` at every source pixel
  *position* that meets the reference pixel, whereas the averaged source `srcDs` (hence `params`) only ever reads positions
  inside the source image `[0, Sr.n) x [0, Sc.n)`.  A lookup that answers `some` beyond the image extent makes a reference
  pixel "completely covered" while no source pixel of the image meets it.  The repair is the hypothesis the model's comment
  already states in words ("positions outside the source image hold none"), the mirror image of `href`.
-/
import Homonim.Props.E2EPartial
namespace Homonim

/-- the property's definition on the reference grid: reference pixel `(a, b)` is valid in the reference and completely covered
    by valid source pixels -/
def ImagePair.fullySupported (p : ImagePair) (a b : Int) : Bool := (p.ref a b).isSome && p.coverRef a b

/-- the right-hand side of `partial_valid_iff_definition` -/
def ImagePair.partialValidDef (p : ImagePair) (kh kw : Nat) (r c : Int) : Bool :=
  (p.src r c).isSome &&
    (List.range (kh + 2)).all fun (di : Nat) => (List.range (kw + 2)).all fun (dj : Nat) =>
      p.fullySupported (nearestIdx p.Rr p.Sr r - (((kh + 2) / 2 : Nat) : Int) + di)
        (nearestIdx p.Rc p.Sc c - (((kw + 2) / 2 : Nat) : Int) + dj)

/-- **Partial masking keeps exactly the fully supported pixels** (reference grid, gain model, positive source, kernel at least
    1 x 1, both lookups `none` outside their image): a corrected pixel is valid iff the source pixel is valid and the
    reference pixel under its centre, and every reference pixel of the kernel window around it grown by one pixel, is valid
    in the reference and completely covered by valid source pixels.

    (Statement first proposed: the same without `hsrc`; refuted by `partial_valid_iff_definition_original_false`.) -/
theorem partial_valid_iff_definition (p : ImagePair) (hSr : 0 < p.Sr.p) (hSc : 0 < p.Sc.p) (hRr : 0 < p.Rr.p) (hRc : 0 < p.Rc.p)
    (hposS : ∀ r c x, p.src r c = some x → 0 < x)
    (hsrc : ∀ r c, ¬ (0 ≤ r ∧ r < p.Sr.n ∧ 0 ≤ c ∧ c < p.Sc.n) → p.src r c = none)
    (href : ∀ i j, ¬ (0 ≤ i ∧ i < p.Rr.n ∧ 0 ≤ j ∧ j < p.Rc.n) → p.ref i j = none)
    (kh kw : Nat) (hkh : 0 < kh) (hkw : 0 < kw) (n0 n1 : Rat) (r c : Int) :
    p.partialValid .gain kh kw n0 n1 r c =
      ((p.src r c).isSome &&
        (List.range (kh + 2)).all fun (di : Nat) => (List.range (kw + 2)).all fun (dj : Nat) =>
          p.fullySupported (nearestIdx p.Rr p.Sr r - (((kh + 2) / 2 : Nat) : Int) + di)
            (nearestIdx p.Rc p.Sc c - (((kw + 2) / 2 : Nat) : Int) + dj)) := by
  have hk : p.keepIn .gain kh kw n0 n1 = p.fullySupported := by
    funext a b
    exact keepIn_gain_eq p hSr hSc hRr hRc hposS hsrc href kh kw hkh hkw n0 n1 a b
  unfold ImagePair.partialValid ImagePair.keepEroded
  rw [hk]

/-- **Subset and strictness**: the partially masked result is a subset of the source mask, and a source pixel whose centre
    falls in the first or last row / column of the reference image never survives (the grown window leaves the image).
    Every model, every kernel shape: for `k ≥ 1` the grown window of `k + 2` pixels anchored at `(k + 2) / 2` reaches at
    least one pixel to either side (`(k + 2) / 2 ≥ 1` and `k + 1 - (k + 2) / 2 ≥ 1`); for `k = 0` it only reaches `i - 1 .. i`,
    but then the kernel is empty and no pixel carries parameters, so nothing survives at all. -/
theorem partial_valid_subset_strict (p : ImagePair) (model : Model) (kh kw : Nat) (n0 n1 : Rat) (r c : Int)
    (h : p.partialValid model kh kw n0 n1 r c = true) :
    (p.src r c).isSome = true ∧ 0 < nearestIdx p.Rr p.Sr r ∧ nearestIdx p.Rr p.Sr r < p.Rr.n - 1 ∧
      0 < nearestIdx p.Rc p.Sc c ∧ nearestIdx p.Rc p.Sc c < p.Rc.n - 1 := by
  unfold ImagePair.partialValid at h
  rw [Bool.and_eq_true] at h
  exact ⟨h.1, keepEroded_strictly_inside p model kh kw n0 n1 _ _ h.2⟩

/-! ### why `hsrc` is needed -/

/-- 5 x 5 reference, unit pixels, valid inside its extent; a source *image* of 2 x 5 unit pixels on the same origin whose lookup
    nevertheless answers `some 1` at every position -/
def leakySrcPair : ImagePair :=
  { Sr := ⟨0, 1, 2⟩, Sc := ⟨0, 1, 5⟩, Rr := ⟨0, 1, 5⟩, Rc := ⟨0, 1, 5⟩
    src := fun _ _ => some 1
    ref := fun i j => if 0 ≤ i ∧ i < 5 ∧ 0 ≤ j ∧ j < 5 then some 1 else none }

/-- **The source lookup must be `none` outside the source image**: for `leakySrcPair`, 1 x 1 kernel, pixel (2, 2): the eroded
    window is reference rows and columns 1..3, all valid in the reference and "covered" by the lookup, so the definition
    says valid; but reference rows 2, 3 meet no pixel of the 2-row source image, carry no averaged source and no parameters,
    and the model says invalid. -/
theorem partial_valid_iff_definition_needs_src_extent :
    leakySrcPair.partialValid .gain 1 1 0 0 2 2 = false ∧ leakySrcPair.partialValidDef 1 1 2 2 = true := by
  decide +kernel

/-- the statement first proposed (no `hsrc`) is refuted -/
theorem partial_valid_iff_definition_original_false :
    ¬ (∀ (p : ImagePair) (_ : 0 < p.Sr.p) (_ : 0 < p.Sc.p) (_ : 0 < p.Rr.p) (_ : 0 < p.Rc.p)
        (_ : ∀ r c x, p.src r c = some x → 0 < x)
        (_ : ∀ i j, ¬ (0 ≤ i ∧ i < p.Rr.n ∧ 0 ≤ j ∧ j < p.Rc.n) → p.ref i j = none)
        (kh kw : Nat) (_ : 0 < kh) (_ : 0 < kw) (n0 n1 : Rat) (r c : Int),
        p.partialValid .gain kh kw n0 n1 r c = p.partialValidDef kh kw r c) := by
  intro H
  have h := H leakySrcPair (by decide) (by decide) (by decide) (by decide)
    (by intro r c x hx; have : x = 1 := (Option.some.inj hx).symm; subst this; decide)
    (by intro i j hn; have hn' : ¬ (0 ≤ i ∧ i < 5 ∧ 0 ≤ j ∧ j < 5) := hn
        show (if 0 ≤ i ∧ i < 5 ∧ 0 ≤ j ∧ j < 5 then some (1 : Rat) else none) = none; rw [if_neg hn'])
    1 1 (by decide) (by decide) 0 0 2 2
  rw [partial_valid_iff_definition_needs_src_extent.1, partial_valid_iff_definition_needs_src_extent.2] at h
  cases h

end Homonim
