/-
  C19 — The command line is a faithful front end to the API (the decision logic of the front end).
  The key tables come from Homonim/Generated.lean, regenerated from the live code on every run.
-/
import Homonim.Model.Cli
import Homonim.Generated

namespace Homonim

/-- whatever was given on the command line is what reaches the API, for every value (None included) and every file -/
theorem commandline_wins {α : Type} (v : Option α) (conf : Option α) : mergeKey ⟨v, .commandline⟩ conf = ⟨v, .commandline⟩ := by
  cases conf <;> rfl

/-- a parameter left at its default takes the file's value, and counts as given from then on -/
theorem mergeKey_default {α : Type} (v : Option α) (c : α) : mergeKey ⟨v, .default⟩ (some c) = ⟨some c, .commandline⟩ := rfl

/-- **Precedence, per key**: a value given on the command line wins over the configuration file - also an explicit null
    (`--nodata null` parses to None; before the repair of finding D60 the file's value replaced it); a file value wins over the
    default; without a file value the parsed parameter stays -/
theorem merge_precedence {α : Type} (v d c : α) :
    (mergeKey ⟨some v, .commandline⟩ (some c)).val = some v ∧
    (mergeKey ⟨some d, .default⟩ (some c)).val = some c ∧
    (mergeKey (⟨some d, .default⟩ : PVal α) none).val = some d ∧
    (mergeKey (⟨none, .commandline⟩ : PVal α) (some c)).val = none ∧
    (mergeKey (⟨none, .default⟩ : PVal α) (some c)).val = some c := by
  rw [commandline_wins, commandline_wins, mergeKey_default, mergeKey_default]
  exact ⟨rfl, rfl, rfl, rfl, rfl⟩

/-- a key supplied by the file counts as given (it is marked as command-line sourced), which is what switches off the
    default creation options when `driver` or `creation_options` come from the file -/
theorem merge_marks_source {α : Type} (d c : α) : (mergeKey ⟨some d, .default⟩ (some c)).src = .commandline := by
  rw [mergeKey_default]

/-- the test `mergeAll` makes before merging: every key of the file names a parameter -/
theorem conf_keys_known_iff {α : Type} (params : List (String × PVal α)) (conf : List (String × α)) :
    (conf.all fun kv => params.any fun p => p.1 == kv.1) = true ↔ ∀ kv ∈ conf, ∃ p ∈ params, p.1 = kv.1 := by
  simp only [List.all_eq_true, List.any_eq_true, beq_iff_eq]

/-- **Unknown configuration keys are rejected** - no key is silently ignored by the merge -/
theorem unknown_conf_key_rejected {α : Type} (params : List (String × PVal α)) (conf : List (String × α)) (k : String) (v : α)
    (hk : (k, v) ∈ conf) (hunk : ∀ p ∈ params, p.1 ≠ k) : mergeAll params conf = none :=
  if_neg fun h =>
    have ⟨p, hp, hpk⟩ := (conf_keys_known_iff params conf).1 h (k, v) hk
    hunk p hp hpk

/-- a known-key file merges key by key -/
theorem merge_known_keys {α : Type} (params : List (String × PVal α)) (conf : List (String × α))
    (h : ∀ kv ∈ conf, ∃ p ∈ params, p.1 = kv.1) :
    mergeAll params conf = some (params.map fun p => (p.1, mergeKey p.2 ((conf.find? fun kv => kv.1 == p.1).map (·.2)))) :=
  if_pos ((conf_keys_known_iff params conf).2 h)

/-- **Every key of the three configuration dictionaries is the name of a `fuse` option that reaches `**kwargs`** - so no
    dictionary key can be silently ignored by `_update_existing_keys` (re-checked against the live code on every run) -/
theorem config_keys_reachable :
    ∀ k ∈ Generated.blockConfigKeys ++ Generated.modelConfigKeys ++ Generated.outProfileKeys,
      k ∈ Generated.fuseKwargNames := by
  decide +kernel

/-- conversely every extra `fuse` keyword option lands in one of the three dictionaries (no option is parsed and dropped) -/
theorem kwargs_all_consumed :
    ∀ k ∈ Generated.fuseKwargNames,
      k ∈ Generated.blockConfigKeys ++ Generated.modelConfigKeys ++ Generated.outProfileKeys := by
  decide +kernel

/-- the same for `compare`: its configuration keys are exactly its keyword options -/
theorem compare_config_keys_reachable :
    (∀ k ∈ Generated.compareConfigKeys, k ∈ Generated.compareKwargNames) ∧
    (∀ k ∈ Generated.compareKwargNames, k ∈ Generated.compareConfigKeys) := by
  decide +kernel

/-- every named argument of the `fuse` callback (other than the click context) is a declared option or argument -/
theorem fuse_named_args_declared :
    ∀ k ∈ Generated.fuseNamedArgs, k = "ctx" ∨ k ∈ Generated.fuseParamNames := by
  decide +kernel

/-- `_update_existing_keys` takes a key's value from the options when present, else keeps the default -/
theorem update_existing_keys_spec {α : Type} (defaults kwargs : List (String × α)) :
    (updateExistingKeys defaults kwargs).map (·.1) = defaults.map (·.1) ∧
    ∀ d ∈ defaults, ∀ v, (kwargs.find? fun kv => kv.1 == d.1) = some (d.1, v) →
      (d.1, v) ∈ updateExistingKeys defaults kwargs := by
  constructor
  · exact List.map_map
  · intro d hd v hv
    exact List.mem_map.2 ⟨d, hd, by rw [hv]; rfl⟩

/-- **Output name**: encodes processing grid, model, and kernel height *then* width -/
theorem postfix_spec (procUpper modelUpper : String) (kh kw : Nat) (ext : String) :
    outPostfixParts procUpper modelUpper kh kw ext =
      ["_FUSE_c", procUpper, "_m", modelUpper, "_k", toString kh, "_", toString kw, ".", ext] ∧
    (outPostfixParts procUpper modelUpper kh kw ext)[5]? = some (toString kh) ∧
    (outPostfixParts procUpper modelUpper kh kw ext)[7]? = some (toString kw) := by
  refine ⟨rfl, rfl, rfl⟩

theorem param_name_spec (stem suffix : String) : paramFilename stem suffix = stem ++ "_PARAM" ++ suffix := rfl

/-- **nodata callback**: the null spellings give an internal mask, anything else must be a number -/
theorem nodata_cb_spec (isNumber : String → Bool) (l : String) :
    nodataCb none isNumber = .null ∧
    (l = "null" ∨ l = "nil" ∨ l = "none" ∨ l = "nada" → nodataCb (some l) isNumber = .null) ∧
    (¬ (l = "null" ∨ l = "nil" ∨ l = "none" ∨ l = "nada") → isNumber l = true → nodataCb (some l) isNumber = .number l) ∧
    (¬ (l = "null" ∨ l = "nil" ∨ l = "none" ∨ l = "nada") → isNumber l = false → nodataCb (some l) isNumber = .invalid) :=
  ⟨rfl, fun h => if_pos h, fun h hn => (if_neg h).trans (if_pos hn),
    fun h hn => (if_neg h).trans (if_neg (hn ▸ Bool.false_ne_true))⟩

/-- the default creation options apply only when neither the driver nor the creation options were given -/
theorem default_creation_options_spec (a b : PSource) :
    useDefaultCreationOptions a b = true ↔ a = .default ∧ b = .default := by
  rw [useDefaultCreationOptions, Bool.and_eq_true, beq_iff_eq, beq_iff_eq]

end Homonim
