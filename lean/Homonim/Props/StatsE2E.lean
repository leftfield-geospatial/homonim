/-
  Homonim.Props.StatsE2E (serves C12) — `ParamStats.stats()` end to end on the model: what is accumulated from the tiles that are
  actually read (those meeting the valid-data window of the pre-pass) is the accumulator of *all* valid pixels of the band - for
  every set of band masks, every tiling of band 1 and of the band, every completion order and every threshold.
-/
import Homonim.Props.C12
import Homonim.Props.StatsWindow
namespace Homonim

/-- the valid pixel values of band `b` (validity `b`, values `val`) inside tile `t`, row-major -/
def tileVals (b : Nat → Nat → Bool) (val : Nat → Nat → ℚ) (t : Win) : List ℚ :=
  (List.range t.h).flatMap fun i => (List.range t.w).filterMap fun j =>
    if b (t.r0 + i) (t.c0 + j) then some (val (t.r0 + i) (t.c0 + j)) else none

/-- a tile that holds no valid pixel of the band contributes no value -/
theorem tileVals_nil_of_no_valid (b : Nat → Nat → Bool) (val : Nat → Nat → ℚ) (t : Win)
    (h : ∀ r c, t.contains r c = true → b r c = false) : tileVals b val t = [] := by
  refine List.flatMap_eq_nil_iff.mpr fun i hi => List.filterMap_eq_nil_iff.mpr fun j hj => ?_
  rw [List.mem_range] at hi hj
  rw [h _ _ ((Win.contains_iff _ _ _).mpr ⟨⟨Nat.le_add_right _ _, Nat.add_lt_add_left hi _⟩,
    Nat.le_add_right _ _, Nat.add_lt_add_left hj _⟩)]
  rfl

/-- **The tiles that are read suffice**: accumulating over the tiles of the band that meet the valid-data window gives what
    accumulating over *all* its tiles gives - provided band 1's tiling (the pre-pass) covers the valid pixels (GDAL block windows
    cover the whole image) -/
theorem stats_tiles_read_suffice (bands : List (Nat → Nat → Bool)) (b : Nat → Nat → Bool) (hb : b ∈ bands)
    (val : Nat → Nat → ℚ) (th : Option ℚ) (tiles1 tilesB : List Win)
    (hcover : ∀ r c, b r c = true → ∃ t1 ∈ tiles1, t1.contains r c = true) :
    ((tilesRead bands tiles1 tilesB).map fun t => tileAcc th (tileVals b val t)).foldl PAcc.add PAcc.zero =
      (tilesB.map fun t => tileAcc th (tileVals b val t)).foldl PAcc.add PAcc.zero := by
  have read := no_valid_pixel_skipped bands tiles1 tilesB b hb
  unfold tilesRead at read ⊢
  cases hw : dataWindow (anyBand bands) tiles1 with
  | none => rfl
  | some w =>
    -- a tile that is not read holds no valid pixel of the band, so its accumulator is the neutral one
    refine foldl_op_filter _ _ _ fun t ht hp => ?_
    rw [tileVals_nil_of_no_valid b val t fun r c hc => ?_]; rfl
    refine Bool.eq_false_iff.mpr fun hv => ?_
    obtain ⟨t1, ht1, h1⟩ := hcover r c hv
    have := read r c hv t1 t ht1 h1 ht hc
    rw [hw, List.mem_filter, hp] at this
    exact Bool.false_ne_true this.2

/-- … hence the figures `stats()` reports for a band are those of all its valid pixels, gathered tile by tile: the accumulator of
    the tiles read is the accumulator of the concatenation of every tile's valid values -/
theorem stats_reads_all_valid_pixels (bands : List (Nat → Nat → Bool)) (b : Nat → Nat → Bool) (hb : b ∈ bands)
    (val : Nat → Nat → ℚ) (th : Option ℚ) (tiles1 tilesB : List Win)
    (hcover : ∀ r c, b r c = true → ∃ t1 ∈ tiles1, t1.contains r c = true) :
    ((tilesRead bands tiles1 tilesB).map fun t => tileAcc th (tileVals b val t)).foldl PAcc.add PAcc.zero =
      tileAcc th (tilesB.map (tileVals b val)).flatten := by
  rw [stats_tiles_read_suffice bands b hb val th tiles1 tilesB hcover, ← tile_partition_invariant, List.map_map]
  rfl

example : tileVals (fun r c => r == 0 && c == 3) (fun _ c => c) ⟨0, 2, 1, 2⟩ = [3] := by decide +kernel

end Homonim
