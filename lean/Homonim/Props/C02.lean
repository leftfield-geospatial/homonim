/-
  C02 — End-to-end: an exact linear source-reference relation is recovered in place.

  The chain is: (source seen on the processing grid) → fit → up-sample the parameters → apply at the source pixel.
  If `ref = a·x + b` on the jointly valid pixels of a window, the fit returns exactly `(a, b)` (for every model able to
  express it), a normalised resampler maps constant parameters to the same constants, and applying them to the source
  pixel gives `a·src + b` at that pixel's own location.
-/
import Homonim.Props.C01
import Homonim.Model.Resample

namespace Homonim

/-- the points lie on the line `ref = a·src + b` -/
def OnLine (a b : ℚ) (p : Pts) : Prop := ∀ x ∈ p, x.2 = a * x.1 + b

theorem sums_of_line (a b : ℚ) (p : Pts) (h : OnLine a b p) :
    sR p = a * sS p + b * sN p ∧ sSR p = a * sSS p + b * sS p :=
  ⟨sum_map_eq_mul_add p fun x hx => by rw [h x hx, mul_one],
   sum_map_eq_mul_add p fun x hx => by rw [h x hx]; ring⟩

/-- **Gain-offset recovers the line**: OLS over a non-degenerate window on the line returns exactly `(a, b)` -/
theorem fit_recovers_line_gain_offset (a b : ℚ) (p : Pts) (h : OnLine a b p) (hN : sN p ≠ 0)
    (hD : sN p * sSS p - sS p * sS p ≠ 0) : olsG p = a ∧ olsO p = b := by
  obtain ⟨e1, e2⟩ := sums_of_line a b p h
  have hg : olsG p = a := by rw [olsG, e1, e2, div_eq_iff hD]; ring
  exact ⟨hg, by rw [olsO, hg, e1, div_eq_iff hN]; ring⟩

/-- **Gain recovers a proportional relation** (`b = 0`): the ratio of sums is exactly `a` -/
theorem fit_recovers_line_gain (a : ℚ) (p : Pts) (h : OnLine a 0 p) (hS : sS p ≠ 0) : sR p / sS p = a := by
  rw [(sums_of_line a 0 p h).1, div_eq_iff hS]
  ring

/-- **Gain-blk-offset recovers the line** when the block normalisation is `(a, b)` (which it is when std and the
    first percentile behave as for numpy: std(a x + b) = a std x, pct(a x + b) = a pct x + b, a > 0): the normalised
    source equals the reference, the kernel gain is 1, and the parameters are exactly `(a, b)`. -/
theorem fit_recovers_line_blk (a b : ℚ) (p : Pts) (h : OnLine a b p) (hR : sR p ≠ 0) :
    sR p / (a * sS p + b * sN p) * a = a ∧ sR p / (a * sS p + b * sN p) * b = b := by
  rw [← (sums_of_line a b p h).1, div_self hR, one_mul, one_mul]
  exact ⟨rfl, rfl⟩

/-- the residuals of the true line vanish, hence **R² = 1** wherever it is defined -/
theorem rss_zero_of_line (a b : ℚ) (p : Pts) (h : OnLine a b p) : rss p a b = 0 :=
  List.sum_eq_zero (List.forall_mem_map.2 fun x hx => by rw [h x hx]; ring)

theorem r2_one_of_line (a b : ℚ) (p : Pts) (h : OnLine a b p) (hN : sN p ≠ 0) (hT : tss p ≠ 0) :
    r2GainOffset (ptsSums p) a b = some 1 := by
  rw [r2_gain_offset_def p a b hN hT, rss_zero_of_line a b p h]
  simp

/-- **The fitted block**: at a jointly valid pixel whose window lies on the line and is non-degenerate, `fitAt` for
    the gain-offset model (no in-painting) returns gain `a`, offset `b`. -/
theorem fitAt_recovers_line (blk : Block) (a b : ℚ) (kh kw : Nat) (fr : Bool) (n0 n1 : ℚ)
    (oF : Nat → Nat → Option ℚ) (r c : Nat) (hm : blk.m r c = true)
    (h : OnLine a b (blk.winPts kh kw r c)) (hN : sN (blk.winPts kh kw r c) ≠ 0)
    (hD : sN (blk.winPts kh kw r c) * sSS (blk.winPts kh kw r c) -
      sS (blk.winPts kh kw r c) * sS (blk.winPts kh kw r c) ≠ 0) :
    ∃ q, fitAt blk .gainOffset kh kw fr none n0 n1 oF r c = some ⟨a, b, q⟩ := by
  obtain ⟨q, hq⟩ := gain_offset_def blk kh kw fr n0 n1 oF r c hm hN hD
  obtain ⟨hg, ho⟩ := fit_recovers_line_gain_offset a b _ h hN hD
  exact ⟨q, by rw [hq, hg, ho]⟩

/-- **Normalised resampling keeps constants**: if every valid pixel of the support carries the value `k` and the
    weights do not cancel, the resampled value is `k`. -/
theorem resample_const (k : ℚ) (l : List (ℚ × ℚ)) (hk : ∀ p ∈ l, p.2 = k) (hw : (l.map fun p => p.1).sum ≠ 0) :
    wmean l = some k :=
  (wmean_eq_some_iff_of_const hk).2 ⟨hw, rfl⟩

/-- resampling commutes with an affine map of the values (the relation `ref = a·x + b` is stated for `x` = the
    source as seen on the processing grid, and survives any further normalised resampling) -/
theorem resample_affine (a b : ℚ) (l : List (ℚ × ℚ)) (hw : (l.map fun p => p.1).sum ≠ 0) :
    wmean (l.map fun p => (p.1, a * p.2 + b)) = (wmean l).map fun v => a * v + b :=
  wmean_map_affine a b l

/-- **Up-sampled parameters are recovered**: if every processing pixel in the support of a source pixel carries
    `(a, b)`, the parameters at the source pixel are `(a, b)`. -/
theorem upsample_recovers (a b : ℚ) (l : List (ℚ × Params)) (h : ∀ p ∈ l, p.2.gain = a ∧ p.2.offset = b)
    (hw : (l.map fun p => p.1).sum ≠ 0) : upsampleParams l = some (a, b) := by
  have hw' (f : Params → ℚ) : ((l.map fun p => (p.1, f p.2)).map (·.1)).sum ≠ 0 := by rwa [List.map_map]
  rw [upsampleParams, resample_const a _ (List.forall_mem_map.2 fun p hp => (h p hp).1) (hw' _),
    resample_const b _ (List.forall_mem_map.2 fun p hp => (h p hp).2) (hw' _)]

/-- **The corrected pixel**: with recovered parameters in its support, the corrected value at a source pixel is
    `a·src + b` for that very pixel's source value - at its own location, whatever the geometry. -/
theorem corrected_recovers_line (a b : ℚ) (l : List (ℚ × Params)) (h : ∀ p ∈ l, p.2.gain = a ∧ p.2.offset = b)
    (hw : (l.map fun p => p.1).sum ≠ 0) (x : ℚ) :
    (upsampleParams l).map (fun go => go.1 * x + go.2) = some (a * x + b) := by
  rw [upsample_recovers a b l h hw]; rfl

/-! non-vacuity -/
example : OnLine 2 1 [(1, 3), (2, 5), (4, 9)] ∧ sN [((1:ℚ), (3:ℚ)), (2, 5), (4, 9)] ≠ 0 := by
  constructor
  · intro x hx; simp at hx; rcases hx with rfl | rfl | rfl <;> norm_num
  · decide +kernel

end Homonim
