/-
  C13 — Output encoding is transparent: rounding, saturation and masks only.
-/
import Homonim.Model.Convert
import Homonim.Lemmas.Geom

namespace Homonim

/-- **Rounded to nearest**: `rhe a d` is within half a unit of `a/d`: `2·|rhe a d · d - a| ≤ d` -/
theorem rhe_nearest (a d : Int) (hd : 0 < d) : 2 * (rhe a d * d - a) ≤ d ∧ -d ≤ 2 * (rhe a d * d - a) :=
  rhe_within_half a d hd

/-- **Half-up is not half-even** (seeded change C13-j): away from ties `floor(x + 1/2)` and round-half-even agree - in exact
    arithmetic - but at a tie whose lower neighbour is even they differ by one (0.5 → 0 vs 1, 2.5 → 2 vs 3, 254.5 → 254 vs 255, the
    last one turning a valid pixel into the nodata value 255) -/
theorem rhe_eq_half_up_off_ties (a d : Int) (hd : 0 < d) (hnt : 2 * (a % d) ≠ d) : rhe a d = (2 * a + d) / (2 * d) := by
  have h1 := Int.emod_nonneg a (ne_of_gt hd)
  have h2 := Int.emod_lt_of_pos a hd
  have h3 := Int.ediv_mul_add_emod a d
  symm
  rw [Int.ediv_eq_iff_of_pos (by omega), Int.mul_left_comm]
  rcases rhe_cases a d with ⟨h, _⟩ | ⟨h, _⟩ <;> rw [h]
  · omega
  · rw [Int.add_mul, Int.one_mul]; omega

theorem half_up_differs_at_even_ties : rhe 1 2 = 0 ∧ (2 * 1 + 2) / (2 * 2) = (1 : Int) ∧ rhe 509 2 = 254 ∧ (2 * 509 + 2) / (2 * 2) = (255 : Int) := by
  decide

/-- **Ties go to even** -/
theorem rhe_tie_even (a d : Int) (hd : 0 < d) (htie : 2 * (a % d) = d) : rhe a d % 2 = 0 := by
  have := rhe_cases a d
  omega

/-- **Valid pixels**: a finite float32 value becomes the nearest integer (ties to even) clamped into the range -/
theorem convert_valid (lo hi : Int) (nd : OutNodata) (q : ℚ) :
    convertPx (.int lo hi) nd (.fin q) = (.ival (clampInt lo hi (roundRat q)), true) := rfl

theorem clampInt_mem {lo hi : Int} (h : lo ≤ hi) (v : Int) : lo ≤ clampInt lo hi v ∧ clampInt lo hi v ≤ hi :=
  ⟨le_max_left _ _, max_le h (min_le_left _ _)⟩

theorem clampInt_of_ge {lo hi v : Int} (h : lo ≤ hi) (hv : hi ≤ v) : clampInt lo hi v = hi := by
  rw [clampInt, min_eq_left hv, max_eq_right h]

theorem clampInt_of_le {lo hi v : Int} (hv : v ≤ lo) : clampInt lo hi v = lo :=
  max_eq_left (le_trans (min_le_right _ _) hv)

/-- **Never wraps**: whatever the input (finite of any size, ±∞) the stored integer lies in the type's range -/
theorem never_wraps (lo hi : Int) (hlh : lo ≤ hi) (nd : OutNodata) (x : XVal) (hx : x ≠ .nan) (n : Int) (b : Bool)
    (h : convertPx (.int lo hi) nd x = (.ival n, b)) : lo ≤ n ∧ n ≤ hi := by
  cases x with
  | fin q => cases h; exact clampInt_mem hlh _
  | pinf => cases h; exact ⟨hlh, le_refl _⟩
  | ninf => cases h; exact ⟨le_refl _, hlh⟩
  | nan => exact absurd rfl hx

/-- **Saturation**: +∞ and values at or above the maximum map to the maximum, -∞ and values at or below the minimum
    to the minimum -/
theorem convert_saturates (lo hi : Int) (hlh : lo ≤ hi) (nd : OutNodata) :
    convertPx (.int lo hi) nd .pinf = (.ival hi, true) ∧ convertPx (.int lo hi) nd .ninf = (.ival lo, true) ∧
    (∀ q : ℚ, hi ≤ roundRat q → convertPx (.int lo hi) nd (.fin q) = (.ival hi, true)) ∧
    (∀ q : ℚ, roundRat q ≤ lo → convertPx (.int lo hi) nd (.fin q) = (.ival lo, true)) :=
  ⟨rfl, rfl, fun q hq => by rw [convert_valid, clampInt_of_ge hlh hq], fun q hq => by rw [convert_valid, clampInt_of_le hq]⟩

/-- **Invalid pixels** carry the nodata value, or a cleared bit in the internal mask when nodata is null -/
theorem convert_invalid (dt : DType) (q : ℚ) :
    (convertPx dt .null .nan).2 = false ∧
    (∀ lo hi, convertPx (.int lo hi) (.num q) .nan = (.ival q.num, false)) ∧
    convertPx .float (.num q) .nan = (.val (.fin q), false) ∧ convertPx .float .nan .nan = (.val .nan, false) :=
  ⟨by cases dt <;> rfl, fun _ _ => rfl, rfl, rfl⟩

/-- **Float targets are the identity on valid pixels** (no rounding, no clipping) -/
theorem float_targets_identity (nd : OutNodata) (x : XVal) (hx : x ≠ .nan) :
    convertPx .float nd x = (.val x, true) := by
  cases x with
  | nan => exact absurd rfl hx
  | _ => rfl

/-- **A valid pixel is lost only by coinciding with the nodata value**: what a reader sees is invalid iff the float32
    pixel was invalid or its stored value equals the chosen nodata value -/
theorem valid_lost_only_by_coincidence (lo hi : Int) (k : Int) (x : XVal) (hx : x ≠ .nan) :
    readBack (.num (k : ℚ)) (convertPx (.int lo hi) (.num (k : ℚ)) x) = none ↔
      (convertPx (.int lo hi) (.num (k : ℚ)) x).1 = .ival k := by
  have hk : ((k : ℚ)).num = k := Rat.num_intCast k
  cases x with
  | nan => exact absurd rfl hx
  | _ => simp [readBack, convertPx, hk]

/-- with a null nodata the internal mask alone decides: no valid pixel is ever lost -/
theorem null_nodata_keeps_all_valid (dt : DType) (x : XVal) (hx : x ≠ .nan) :
    (readBack .null (convertPx dt .null x)).isSome = true := by
  cases x with
  | nan => exact absurd rfl hx
  | _ => cases dt <;> rfl

/-- **Nodata guard**: for an integer type the nodata value must be an integer inside the range; NaN never is -/
theorem nodata_castable_guard (lo hi : Int) (q : ℚ) :
    (nodataCastable (.int lo hi) (.num q) = true ↔ q.den = 1 ∧ lo ≤ q.num ∧ q.num ≤ hi) ∧
    nodataCastable (.int lo hi) .nan = false := by
  constructor
  · simp only [nodataCastable, Bool.and_eq_true, decide_eq_true_eq, and_assoc]
  · rfl

/-! non-vacuity -/
example : convertPx .uint8 (.num 0) (.fin (5/2)) = (.ival 2, true) ∧ convertPx .uint8 (.num 0) (.fin (7/2)) = (.ival 4, true) ∧
    convertPx .uint8 (.num 0) (.fin 300) = (.ival 255, true) ∧ convertPx .int16 (.num 0) (.fin (-40000)) = (.ival (-32768), true) := by
  decide +kernel

end Homonim
