/-
  Homonim.Props.SrcTieCli — source-text tie of the argument validators, the output names, the band-selection rules and the
  `FUSE_*` tag contract between `RasterFuse` (writer), `validate_param_image` and `ParamStats` (readers), as extracted by
  harness/py2lean.py on every run (`_u_kernel`, `_u_threads`, `_u_param_image`, `_u_names`, `_u_nonalpha`, `_b_info`,
  `_c_defaults`, `_f_tags`).
-/
import Homonim.GeneratedCode
import Homonim.Model.Kernel
import Homonim.Model.Layout
import Homonim.Model.Cli
import Homonim.Model.Bands
import Homonim.Model.StatsWindow
import Homonim.Generated
namespace Homonim
open Homonim.Src

/-! ### kernel shape (C01, C05, C19) -/

/-- the source refuses (warns about) an area *below* a bound where the model asks for one of *at least* the bound -/
theorem not_decide_lt (a n : Int) : (!decide (a < n)) = decide (n ≤ a) := by
  simp only [← decide_not, Int.not_lt]

/-- `validate_kernel_shape`: the model's acceptance test is the source's (the three refusals, whatever their order) -/
theorem src_C01_kernel_accepts (kh kw : Int) (m : Model) :
    validKernelShape kh kw m = kernel_accepts kh kw (m == .gainOffset) := by
  unfold validKernelShape kernel_accepts
  rw [Bool.not_and, not_decide_lt, bne]
  ac_rfl

/-- … and so is the warning: only gain-offset, only for an accepted area below 25 -/
theorem src_C01_kernel_warns (kh kw : Int) (m : Model) :
    kernelWarns kh kw m = kernel_warns kh kw (m == .gainOffset) := by
  unfold kernelWarns kernel_warns
  rw [not_decide_lt]

/-- an accepted kernel is odd and positive on both axes, so that `(k - 1) / 2` is its radius and the anchor is its centre;
    an accepted gain-offset kernel has at least three elements -/
theorem src_C01_accepted_kernel (kh kw : Int) (go : Bool) (h : kernel_accepts kh kw go = true) :
    kh % 2 = 1 ∧ kw % 2 = 1 ∧ 1 ≤ kh ∧ 1 ≤ kw ∧ (go = true → 3 ≤ kh * kw) := by
  unfold kernel_accepts at h
  simp only [Bool.and_eq_true, decide_eq_true_eq, Bool.not_eq_true', Bool.and_eq_false_imp,
    decide_eq_false_iff_not, Int.not_lt] at h
  obtain ⟨⟨⟨⟨h1, h2⟩, h3⟩, h4⟩, h5⟩ := h
  refine ⟨h1, h2, h4, h5, fun hgo => ?_⟩
  -- the area is at least 2 and, as a product of odd numbers, odd
  have hodd : (kh * kw) % 2 = 1 := by rw [Int.mul_emod, h1, h2]; rfl
  have := h3 hgo
  omega

example : kernel_accepts 1 3 true = true ∧ kernel_accepts 1 1 true = false ∧ kernel_accepts 1 1 false = true ∧
    kernel_accepts 4 3 false = false ∧ kernel_accepts (-1) 3 false = false := by decide

/-! ### thread count (C04, C19) -/

theorem src_C19_threads (threads cpu : Int) : resolveThreads threads cpu = threads_resolve threads cpu := rfl

/-- what reaches the executor: never more than the processors; all of them for 0; the request itself otherwise -/
theorem src_C19_threads_spec (threads cpu n : Int) (h : threads_resolve threads cpu = some n) :
    n ≤ cpu ∧ (threads = 0 → n = cpu) ∧ (threads ≠ 0 → n = threads) := by
  dsimp only [threads_resolve] at h
  by_cases hlt : cpu < if threads = 0 then cpu else threads
  · rw [if_pos hlt] at h
    cases h
  · rw [if_neg hlt] at h
    cases h
    exact ⟨Int.not_lt.1 hlt, fun h0 => if_pos h0, fun h0 => if_neg h0⟩

/-- a request above the processor count is refused, not clipped -/
theorem src_C19_threads_refused (threads cpu : Int) (h : cpu < threads) (h0 : threads ≠ 0) :
    threads_resolve threads cpu = none := by
  unfold threads_resolve
  rw [if_neg h0]
  exact if_pos h

/-- both entry points (the `--threads` callback and `create_block_config`) validate through the same function -/
theorem src_C19_threads_users : threads_users = ["_threads_cb", "create_block_config"] := rfl

/-! ### parameter image layout and tags (C12, C14) -/

theorem src_C12_param_count (count : Nat) : validCount count = paramImage_countOk count := by
  unfold validCount paramImage_countOk
  rw [Bool.not_or, bne, bne, Bool.not_not]

/-- 0-based band `k * n + i` lies in block `k` of the layout -/
theorem block_div {n i : Nat} (k : Nat) (hi : i < n) : (k * n + i) / n = k := by
  rw [Nat.mul_comm, Nat.mul_add_div (by omega), Nat.div_eq_of_lt hi, Nat.add_zero]

/-- the `n` bands of block `k` all expect suffix `k` -/
theorem suffix_block (n k : Nat) :
    ((List.range n).map fun j => suffixLower (expectedSuffix n (k * n + j + 1))) = List.replicate n (suffixLower k) := by
  refine List.eq_replicate_iff.2 ⟨by rw [List.length_map, List.length_range], fun s hs => ?_⟩
  obtain ⟨j, hj, rfl⟩ := List.mem_map.1 hs
  rw [expectedSuffix, Nat.add_sub_cancel, block_div k (List.mem_range.1 hj)]

/-- the suffix `validate_param_image` expects on 1-based band `b` is the one of the model's layout, `(b - 1) / n` -/
theorem src_C12_param_suffixes (n : Nat) : expectedSuffixes n = paramImage_suffixes n := by
  show _ = List.replicate n (suffixLower 0) ++ List.replicate n (suffixLower 1) ++ List.replicate n (suffixLower 2)
  rw [← suffix_block n 0, ← suffix_block n 1, ← suffix_block n 2, expectedSuffixes, show 3 * n = n + n + n by omega,
    List.range_add, List.range_add, List.map_append, List.map_append, List.map_map, List.map_map]
  simp only [Function.comp_def, Nat.zero_mul, Nat.one_mul, Nat.zero_add, Nat.two_mul]

/-- what fuse labels band `paramIndex n i k` (GAIN / OFFSET / R2, `descr_assignments` of C14) is what the validator expects there:
    the upper-case label written lower-cases to the suffix looked for -/
theorem src_C12_label_matches_suffix (n i k : Nat) (hi : i < n) (hk : k < 3) :
    (paramImage_suffixes n)[paramIndex n i k - 1]? = some (suffixLower k) := by
  have hlt : k * n + i < 3 * n := by
    have := Nat.mul_le_mul_right n (show k + 1 ≤ 3 from hk)
    rw [Nat.succ_mul] at this
    omega
  rw [← src_C12_param_suffixes, expectedSuffixes, paramIndex, Nat.add_sub_cancel, List.getElem?_map,
    List.getElem?_range hlt, Option.map_some, expectedSuffix, Nat.add_sub_cancel, block_div k hi]

/-- the tag contract: every tag `validate_param_image` insists on and every tag `ParamStats` reads is written by
    `RasterFuse.process`; and the in-paint threshold read back is a number or None, never the tag text -/
theorem src_C12_tags : fuseTags = tags_written ∧ statsTags = tags_statsReads ∧ paramRequiredTags = paramImage_requiredTags ∧
    (∀ t ∈ paramImage_requiredTags, t ∈ tags_written) ∧ (∀ t ∈ tags_statsReads, t ∈ tags_written) ∧
    tags_threshIsNumber = true := by
  refine ⟨rfl, rfl, rfl, by decide +kernel, by decide +kernel, rfl⟩

/-- the valid-data window pre-pass (C12): the steps `Model/StatsWindow.lean` models - the *dataset* mask of each tile, its bounding
    window at the tile's corner, the union, then the tiles of every band that meet it - are those of the source text.  Taking one
    band's mask instead (`read_masks(1)`) does not translate. -/
theorem src_C12_window_steps : windowStepsModel = statsWindow_steps := rfl

/-- `KernelModel.__init__` (C02, C03, C19): every key of the model configuration (`create_config()`, read by introspection into
    `Generated.lean`) is stored exactly as given - no value is re-interpreted on the way in (a threshold of 0 is 0, `None` is `None`) -
    and the kernel shape passes through `validate_kernel_shape` -/
theorem src_C19_model_config : kmodel_configStoredAsGiven = Generated.modelConfigKeys ∧ kmodel_kernelValidated = true := ⟨rfl, rfl⟩

/-! ### output names (C10, C19) -/

theorem src_C19_names (procUpper modelUpper : String) (kh kw : Nat) (ext stem suffix : String) :
    outPostfixParts procUpper modelUpper kh kw ext = names_outPostfixParts procUpper modelUpper kh kw ext ∧
    paramFilename stem suffix = names_paramFilename stem suffix := ⟨rfl, rfl⟩

/-- option defaults are computed from the API's defaults, and the flags default as the API's keyword arguments do -/
theorem src_C19_defaults : cliDefaultsFromApi = cli_defaultsFromApi ∧ cliFlagDefaults = cli_flagDefaults := ⟨rfl, rfl⟩

/-! ### band candidates and defaults (C15, C08) -/

/-- a band is a candidate iff it is not alpha and not a geedim mask band (a description ending in `_MASK` / `_DIST`) -/
theorem src_C15_candidate (b : BandMeta) (hasDescr endsMask endsDist : Bool)
    (h : b.maskDescr = (hasDescr && (endsMask || endsDist))) :
    b.candidate = bands_isCandidate b.alpha hasDescr endsMask endsDist := by
  rw [BandMeta.candidate, h, bands_isCandidate]

theorem src_C15_non_alpha (isAlpha : List Bool) : nonAlphaBands isAlpha = bands_nonAlpha isAlpha := rfl

/-- every index returned is a 1-based band of the file that is not alpha, and every such band is returned, in file order -/
theorem src_C15_non_alpha_spec (isAlpha : List Bool) (b : Nat) :
    b ∈ bands_nonAlpha isAlpha ↔ 1 ≤ b ∧ b ≤ isAlpha.length ∧ isAlpha[b - 1]? = some false := by
  -- in range, "`getD … false` is false" and "the entry is `false`" say the same
  have hget (a : Nat) (ha : a < isAlpha.length) : (!isAlpha.getD a false) = true ↔ isAlpha[a]? = some false := by
    rw [List.getD_eq_getElem?_getD, List.getElem?_eq_getElem ha, Option.getD_some, Option.some_inj,
      Bool.not_eq_true']
  unfold bands_nonAlpha
  simp only [List.mem_map, List.mem_filter, List.mem_range]
  constructor
  · rintro ⟨a, ⟨ha, hf⟩, rfl⟩
    exact ⟨Nat.le_add_left 1 a, ha, (hget a ha).1 hf⟩
  · rintro ⟨h1, h2, h3⟩
    have hb : b - 1 < isAlpha.length := Nat.sub_one_lt_of_le h1 h2
    exact ⟨b - 1, ⟨hb, (hget _ hb).2 h3⟩, Nat.sub_add_cancel h1⟩

theorem src_C15_band_rules : bandRefusalsModel = bandInfo_refusals ∧ bandChoiceModel = bandInfo_selection ∧
    rgbStepsModel = bandInfo_rgbSteps ∧ bandInfo_rgbCount = 3 := ⟨rfl, rfl, rfl, rfl⟩

/-- the standard RGB wavelengths of the model are the source's table -/
theorem src_C15_std_rgb (c : ColorInterp) :
    stdRgb c = (bandInfo_stdRgb.find? fun e => e.1 == colorName c).map (·.2) := by
  cases c <;> decide +kernel

/-- `cli.fuse`, `cli.compare`, `cli.stats` (C09): each command's processing sits in one `try` with one handler, `except Exception`,
    which is the model's - log, then `raise click.Abort()` on every path; no inner handler swallows anything on the way -/
theorem src_C09_handlers : cli_handlers = [("fuse", cliHandler), ("compare", cliHandler), ("stats", cliHandler)] := rfl

end Homonim
