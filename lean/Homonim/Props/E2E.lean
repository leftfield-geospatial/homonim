/-
  E2E — end-to-end block transparency of the whole-image fusion model (serves C05, C02, C03).
-/
import Homonim.Lemmas.RefGrid
namespace Homonim

/-- **Blocking is transparent, end to end** (reference-grid processing, nearest / bilinear up-sampling, overlap ≥ kernel
    radius + 1): every source pixel of a block's output window gets from that block - which sees the reference only through
    its input window and the source only through the expanded source input window - exactly the value the single-block run
    gives it: the same validity and the same number.  For every pair of images, grids (any pixel sizes and offsets, ties
    included), kernel, block shape, block and pixel.

    The statement holds for all three models *given the same block normalisation `(n0, n1)`*; the per-block term of
    gain-blk-offset is precisely that `(n0, n1)` depends on the block, which is why the property excludes that model
    (and in-painting, which `ImagePair.params` does not include). -/
theorem block_transparent (p : ImagePair) (hSr : 0 < p.Sr.p) (hSc : 0 < p.Sc.p) (hRr : 0 < p.Rr.p) (hRc : 0 < p.Rc.p)
    (model : Model) (kh kw : Nat) (n0 n1 : Rat) (ups : Resampling) (hups : ups ≠ .average)
    (sr sc vr vc : Int) (hvr : ((kh / 2 : Nat) : Int) + 1 ≤ vr) (hvc : ((kw / 2 : Nat) : Int) + 1 ≤ vc)
    (kr kc : Nat)
    (r c : Int) (hr : (p.blockRows sr vr kr).oout.lo ≤ r ∧ r < (p.blockRows sr vr kr).oout.hi)
    (hc : (p.blockCols sc vc kc).oout.lo ≤ c ∧ c < (p.blockCols sc vc kc).oout.hi) :
    p.correctedByBlock model kh kw n0 n1 ups sr sc vr vc kr kc r c = p.corrected model kh kw n0 n1 ups r c :=
  block_transparent_core p hSr hSc hRr hRc model kh kw n0 n1 ups hups _ _ _ _
    (p.blockRows_covers sr vr _ (by omega) hvr kr) (p.blockCols_covers sc vc _ (by omega) hvc kc) r c hr hc

/-- **Two partitions agree**: whatever block shapes and (sufficient) overlaps two runs use, a source pixel gets the same
    corrected value and validity from the block that writes it in either run. -/
theorem partitions_agree (p : ImagePair) (hSr : 0 < p.Sr.p) (hSc : 0 < p.Sc.p) (hRr : 0 < p.Rr.p) (hRc : 0 < p.Rc.p)
    (model : Model) (kh kw : Nat) (n0 n1 : Rat) (ups : Resampling) (hups : ups ≠ .average)
    (sr sc vr vc sr' sc' vr' vc' : Int)
    (hvr : ((kh / 2 : Nat) : Int) + 1 ≤ vr) (hvc : ((kw / 2 : Nat) : Int) + 1 ≤ vc)
    (hvr' : ((kh / 2 : Nat) : Int) + 1 ≤ vr') (hvc' : ((kw / 2 : Nat) : Int) + 1 ≤ vc')
    (kr kc kr' kc' : Nat) (r c : Int)
    (hr : (p.blockRows sr vr kr).oout.lo ≤ r ∧ r < (p.blockRows sr vr kr).oout.hi)
    (hc : (p.blockCols sc vc kc).oout.lo ≤ c ∧ c < (p.blockCols sc vc kc).oout.hi)
    (hr' : (p.blockRows sr' vr' kr').oout.lo ≤ r ∧ r < (p.blockRows sr' vr' kr').oout.hi)
    (hc' : (p.blockCols sc' vc' kc').oout.lo ≤ c ∧ c < (p.blockCols sc' vc' kc').oout.hi) :
    p.correctedByBlock model kh kw n0 n1 ups sr sc vr vc kr kc r c
      = p.correctedByBlock model kh kw n0 n1 ups sr' sc' vr' vc' kr' kc' r c := by
  rw [block_transparent p hSr hSc hRr hRc model kh kw n0 n1 ups hups sr sc vr vc hvr hvc kr kc r c hr hc,
    block_transparent p hSr hSc hRr hRc model kh kw n0 n1 ups hups sr' sc' vr' vc' hvr' hvc' kr' kc' r c hr' hc']

/-! non-vacuity of the geometric hypotheses: 0.4 m source on a 0.8 m reference at a half-pixel offset (the D1 geometry),
    3 x 3 kernel, overlap 2, block length 5: block 1 is a real block and source row / column 9 is in its output window -/
example :
    let p : ImagePair := ⟨⟨13, 4, 31⟩, ⟨13, 4, 31⟩, ⟨1, 8, 20⟩, ⟨1, 8, 20⟩, fun _ _ => none, fun _ _ => none⟩
    1 < nBlocks (refWin p.Sr p.Rr).lo (refWin p.Sr p.Rr).hi 5 ∧ ((3 / 2 : Nat) : Int) + 1 ≤ 2 ∧
      (p.blockRows 5 2 1).oout.lo ≤ 9 ∧ 9 < (p.blockRows 5 2 1).oout.hi ∧
      (p.blockCols 5 2 1).oout.lo ≤ 9 ∧ 9 < (p.blockCols 5 2 1).oout.hi := by decide

end Homonim
