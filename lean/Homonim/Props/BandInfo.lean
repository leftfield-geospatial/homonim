/-
  BandInfo — theorems about `bandInfo`, the model of `MatchedPairReader._get_band_info` (serves C15).
-/
import Homonim.Model.Bands
import Homonim.Lemmas.BandInfo
namespace Homonim
open BandInfo

/-- is 1-based band `b` of the file a candidate (neither an alpha band nor a geedim mask band)? -/
def isCandidate (bands : List BandMeta) (b : Nat) : Prop :=
  1 ≤ b ∧ ∃ m, bands[b - 1]? = some m ∧ m.alpha = false ∧ m.maskDescr = false

theorem mem_cand_iff_isCandidate {bands : List BandMeta} {b : Nat} : b ∈ cand bands ↔ isCandidate bands b := mem_cand

/-- the tagged candidates are the members of `refl` -/
private theorem tagged_iff_mem_refl {bands : List BandMeta} {b : Nat} :
    (isCandidate bands b ∧ ∃ m, bands[b - 1]? = some m ∧ m.wl.isSome) ↔ b ∈ refl bands := by
  rw [mem_refl, mem_cand_iff_isCandidate]

/-- **Only candidate bands are ever selected, and every selected band gets exactly one wavelength entry**: alpha and
    mask bands are never used, indices are in range. -/
theorem bandInfo_selected_are_candidates (bands : List BandMeta) (sel : Option (List Nat)) (bs : List Nat)
    (ws : List (Option Rat)) (h : bandInfo bands sel = .ok (bs, ws)) :
    ws.length = bs.length ∧ bs ≠ [] ∧ ∀ b ∈ bs, isCandidate bands b := by
  obtain ⟨hne, hsub, rfl, _⟩ := bandInfo_ok h
  exact ⟨List.length_map _, hne, fun b hb => mem_cand_iff_isCandidate.1 (hsub b hb)⟩

/-- **A user selection is kept as given** (same bands, same order) whenever it is accepted. -/
theorem bandInfo_user_selection_kept (bands : List BandMeta) (s : List Nat) (hs : s ≠ []) (bs : List Nat)
    (ws : List (Option Rat)) (h : bandInfo bands (some s) = .ok (bs, ws)) : bs = s :=
  (bandInfo_ok h).2.2.2.2 hs

/-- **A user selection naming an alpha / mask band or an index outside the file is rejected.** -/
theorem bandInfo_rejects_bad_selection (bands : List BandMeta) (s : List Nat) (b : Nat) (hb : b ∈ s)
    (hbad : ¬ isCandidate bands b) : ∃ e, bandInfo bands (some s) = .error e := by
  match h : bandInfo bands (some s) with
  | .error e => exact ⟨e, rfl⟩
  | .ok (bs, ws) => exact absurd (mem_cand_iff_isCandidate.1 ((bandInfo_ok h).2.2.2.1 b hb)) hbad

/-- **Without a selection, the bands that carry a wavelength tag are used if there are any, else all candidates**, in
    file order. -/
theorem bandInfo_default_selection (bands : List BandMeta) (bs : List Nat) (ws : List (Option Rat))
    (h : bandInfo bands none = .ok (bs, ws)) :
    bs.Pairwise (· < ·) ∧
    ((∃ b, isCandidate bands b ∧ ∃ m, bands[b - 1]? = some m ∧ m.wl.isSome) →
      ∀ b, b ∈ bs ↔ (isCandidate bands b ∧ ∃ m, bands[b - 1]? = some m ∧ m.wl.isSome)) ∧
    ((¬ ∃ b, isCandidate bands b ∧ ∃ m, bands[b - 1]? = some m ∧ m.wl.isSome) → ∀ b, b ∈ bs ↔ isCandidate bands b) := by
  cases (bandInfo_ok h).2.2.2
  refine ⟨(cand_pairwise bands).sublist (dflt_sublist bands), ?_, ?_⟩ <;>
    rcases dflt_cases bands with ⟨hne, hd⟩ | ⟨hnil, hd⟩ <;> rw [hd]
  · exact fun _ _ => tagged_iff_mem_refl.symm
  · rintro ⟨b, hb⟩; cases hnil ▸ tagged_iff_mem_refl.1 hb
  · obtain ⟨b, hb⟩ := List.exists_mem_of_ne_nil _ hne
    exact fun hno => absurd ⟨b, tagged_iff_mem_refl.2 hb⟩ hno
  · exact fun _ _ => mem_cand_iff_isCandidate

/-- **A wavelength tag is never overwritten**: the wavelength reported for a selected band that carries a
    `center_wavelength` tag is that tag - whatever the other bands carry, whatever the colour interpretations, whether or
    not the RGB defaults apply to other bands. -/
theorem bandInfo_tag_kept (bands : List BandMeta) (sel : Option (List Nat)) (bs : List Nat) (ws : List (Option Rat))
    (h : bandInfo bands sel = .ok (bs, ws)) (k : Nat) (hk : k < bs.length) (m : BandMeta) (w : Rat)
    (hm : bands[bs.getD k 0 - 1]? = some m) (hw : m.wl = some w) : ws.getD k none = some w := by
  obtain ⟨hc, he⟩ := bandInfo_entry h hk
  rw [he]
  exact cw1_tag hm hw hc

/-- `bandInfo_defaults_only_rgb` with "exactly three candidate bands" said without a loophole: the witness list is
    strictly increasing (so duplicate-free), hence the file has exactly three candidate bands.  (In the statement below
    a list like `[1, 1, 2]` would also be a witness for a file with two candidates.) -/
theorem bandInfo_defaults_only_rgb_strict (bands : List BandMeta) (sel : Option (List Nat)) (bs : List Nat)
    (ws : List (Option Rat)) (h : bandInfo bands sel = .ok (bs, ws)) (k : Nat) (hk : k < bs.length) (m : BandMeta)
    (hm : bands[bs.getD k 0 - 1]? = some m) (hw : m.wl = none) (w : Rat) (hws : ws.getD k none = some w) :
    (∃ l : List Nat, l.length = 3 ∧ l.Pairwise (· < ·) ∧ ∀ b, b ∈ l ↔ isCandidate bands b) ∧
      (w = 650 / 1000 ∨ w = 560 / 1000 ∨ w = 480 / 1000) := by
  obtain ⟨h3, hw'⟩ := cw1_untagged hm hw ((bandInfo_entry h hk).2 ▸ hws)
  exact ⟨⟨cand bands, h3, cand_pairwise bands, fun b => mem_cand_iff_isCandidate⟩, hw'⟩

/-- **The RGB defaults only fill gaps of three-band images**: a selected band without a wavelength tag is given a wavelength
    only if the file has exactly three candidate bands, and then it is one of the standard R, G, B wavelengths. -/
theorem bandInfo_defaults_only_rgb (bands : List BandMeta) (sel : Option (List Nat)) (bs : List Nat) (ws : List (Option Rat))
    (h : bandInfo bands sel = .ok (bs, ws)) (k : Nat) (hk : k < bs.length) (m : BandMeta)
    (hm : bands[bs.getD k 0 - 1]? = some m) (hw : m.wl = none) (w : Rat) (hws : ws.getD k none = some w) :
    (∃ l : List Nat, l.length = 3 ∧ ∀ b, b ∈ l ↔ isCandidate bands b) ∧ (w = 650 / 1000 ∨ w = 560 / 1000 ∨ w = 480 / 1000) := by
  obtain ⟨⟨l, h3, _, hl⟩, hw'⟩ := bandInfo_defaults_only_rgb_strict bands sel bs ws h k hk m hm hw w hws
  exact ⟨⟨l, h3, hl⟩, hw'⟩

/-- `bandInfo_no_assumption_when_partly_tagged` with the weaker premise of its doc-string: it is enough that some
    candidate band has a tag *or* a red/green/blue colour interpretation. -/
theorem bandInfo_no_assumption_when_partly_informed (bands : List BandMeta) (sel : Option (List Nat)) (bs : List Nat)
    (ws : List (Option Rat)) (h : bandInfo bands sel = .ok (bs, ws))
    (hinfo : ∃ b, isCandidate bands b ∧ ∃ m, bands[b - 1]? = some m ∧ (m.wl.isSome ∨ m.ci ≠ .other))
    (k : Nat) (hk : k < bs.length) (m : BandMeta) (hm : bands[bs.getD k 0 - 1]? = some m) (hw : m.wl = none)
    (hci : m.ci = .other) : ws.getD k none = none := by
  obtain ⟨b, hb, hinfo⟩ := hinfo
  rw [(bandInfo_entry h hk).2]
  exact cw1_other hm hw hci ⟨b - 1, (Nat.sub_add_cancel hb.1).symm ▸ mem_cand_iff_isCandidate.2 hb, hinfo⟩

/-- **The file-order R, G, B assumption is made only when no candidate band of a three-band image has any wavelength
    information** (tag or red/green/blue colour interpretation): if some candidate band has a tag, a selected untagged band
    whose colour interpretation is not red/green/blue stays without a wavelength. -/
theorem bandInfo_no_assumption_when_partly_tagged (bands : List BandMeta) (sel : Option (List Nat)) (bs : List Nat)
    (ws : List (Option Rat)) (h : bandInfo bands sel = .ok (bs, ws))
    (htag : ∃ b, isCandidate bands b ∧ ∃ m, bands[b - 1]? = some m ∧ m.wl.isSome)
    (k : Nat) (hk : k < bs.length) (m : BandMeta) (hm : bands[bs.getD k 0 - 1]? = some m) (hw : m.wl = none)
    (hci : m.ci = .other) : ws.getD k none = none :=
  let ⟨b, hb, m', hm', hw'⟩ := htag
  bandInfo_no_assumption_when_partly_informed bands sel bs ws h ⟨b, hb, m', hm', .inl hw'⟩ k hk m hm hw hci

/-! non-vacuity -/
example : (bandInfo [⟨false, false, .other, some (65/100)⟩, ⟨false, false, .other, none⟩, ⟨false, false, .other, none⟩] none).toOption
    = some ([1], [some (65/100)]) := by decide +kernel
example : (bandInfo [⟨false, false, .other, none⟩, ⟨false, false, .other, none⟩, ⟨false, false, .other, none⟩] none).toOption
    = some ([1, 2, 3], [some (650/1000), some (560/1000), some (480/1000)]) := by decide +kernel
example : (bandInfo [⟨false, false, .other, some (86/100)⟩, ⟨false, false, .other, none⟩, ⟨false, false, .other, none⟩]
    (some [1, 2, 3])).toOption = some ([1, 2, 3], [some (86/100), none, none]) := by decide +kernel

end Homonim
