/-
  Homonim.Props.SrcTieSched — source-text tie of the scheduler model (C04, C09): the per-block program the machine runs
  (`Sched.prog`) is the sequence of lock acquisitions, dataset accesses, computations and lock releases that
  `RasterFuse._process_block` (with `RasterPairReader.read` inlined) performs in the source text, as extracted by
  harness/py2lean.py on every run (`with self._x_lock:` → acq / rel; `from_rio_dataset(self._src_im …)` → io S; …).
  A dataset access moved out of its `with` block, a lock taken in another order, or a nested lock changes the generated
  program, and this theorem no longer checks.
-/
import Homonim.GeneratedCode
import Homonim.Model.Sched
import Homonim.Model.FS
import Homonim.Model.Cli
namespace Homonim
open Homonim.Src

theorem src_C04_prog (param : Bool) : prog param = progBase ++ (if param then progParam else []) := by
  cases param <;> rfl

/-- `RasterFuse.process` (C04, C09): the fan-out the machine assumes is the one the source states -/
theorem src_C04_fan_out : fanOutModel = fanOut := rfl

/-- `_out_files` (C10): the model's `processCall` - both existence checks, then both opens - is the event sequence the
    source text states, in its order.  Moving a check below an `open` changes the generated list. -/
theorem src_C10_out_files (fs : FS) (c : Call) : processCall fs c = runEvents fs c outFilesEvents := rfl

/-- `FuseCommand.invoke` (C19): a configuration-file value replaces a parameter exactly under the condition the source states,
    and the default creation options are used exactly under the source's condition -/
theorem src_C19_merge {α : Type} (p : PVal α) (c : α) :
    mergeKey p (some c) = (if cli_mergeCond p.val.isNone (p.src == .default) then ⟨some c, .commandline⟩ else p) ∧
    ∀ d o : PSource, useDefaultCreationOptions d o = cli_defaultCoCond (d == .default) (o == .default) :=
  ⟨rfl, fun _ _ => rfl⟩

/-- `RasterCompare.process`, `ParamStats.stats` (C04, C11, C12): workers return the sums of their own block and the caller adds
    them up in completion order - the shape under which `fold_perm` (C11) makes the totals independent of the schedule.  A worker
    that touches a shared accumulator changes the generated list (or fails to translate). -/
theorem src_C04_accumulate : accumulateModel = accumulate_compare ∧ accumulateModel = accumulate_stats := ⟨rfl, rfl⟩

/-- `cli.fuse`, `cli.compare` (C18, C19, C10): the per-source loop re-binds no option of the command - every source of one call is
    processed with the options as given -/
theorem src_C19_loops : fuseLoopRebinds = cli_fuseLoopRebinds ∧ compareLoopRebinds = cli_compareLoopRebinds := ⟨rfl, rfl⟩

/-- `_merge_corr_profile`, `_merge_param_profile`, `_set_metadata` (C13, C10, C14): the caller's `out_profile` is only read, the
    parameter encoding is forced on the merged copy, every configuration value is tagged -/
theorem src_C13_profiles : paramProfileSteps = profile_paramSteps ∧ corrProfileSteps = profile_corrSteps ∧
    metaTagSteps = profile_metaTags := ⟨rfl, rfl, rfl⟩

/-- `_nodata_cb` (C19): the words that mean "no nodata value" and the number parser are the source's -/
theorem src_C19_nodata_cb (l : String) (isNumber : String → Bool) :
    nodataCb (some l) isNumber = (if l ∈ cli_nodataNullWords then .null else if isNumber l then .number l else .invalid) ∧
      nodataParser = cli_nodataParser := by
  refine ⟨?_, rfl⟩
  unfold nodataCb cli_nodataNullWords
  simp only [List.mem_cons, List.mem_nil_iff, or_false]

/-- every lock is created once, by the thread that constructs the object (or that calls `stats`), never by a worker (C04) -/
theorem src_C04_locks : lockSitesModel = locks_created := rfl

/-- `KernelModel`, `RefSpaceModel`, `SrcSpaceModel` (C04): no method other than `__init__` stores into the object that all blocks
    share (nor into its class, a global or a non-local) - the hypothesis `Stateless` of `stateless_compute_interleaving_independent`,
    read off the source text.  A note kept on the object between `fit` and `apply` changes the generated list. -/
theorem src_C04_model_state : sharedModelWritesModel = modelState_writes := rfl

end Homonim
