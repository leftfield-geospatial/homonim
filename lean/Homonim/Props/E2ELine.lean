/-
  E2ELine — whole-image versions of C02 (an exact linear relation is recovered in place) and C07 (scale laws).
-/
import Homonim.Props.E2EMask
namespace Homonim

/-- **Gain model, whole image: a proportional relation is recovered in place.**  If the reference is `a` times the source as
    seen on the reference grid (wherever both exist), every corrected pixel that is valid equals `a` times its own source
    pixel - at its own location, for every geometry (no hypothesis on pixel sizes or offsets), every sign of the data, every
    kernel and both up-sampling methods (nearest / bilinear). -/
theorem whole_image_gain_recovers (p : ImagePair)
    (a : Rat) (kh kw : Nat) (n0 n1 : Rat) (ups : Resampling) (hups : ups ≠ .average)
    (hline : ∀ i j x y, p.srcDs i j = some x → p.ref i j = some y → y = a * x)
    (r c : Int) (x v : Rat) (hx : p.src r c = some x) (hv : p.corrected .gain kh kw n0 n1 ups r c = some v) :
    v = a * x := by
  rw [correctedWith_of_const_params p _ .gain kh kw n0 n1 r c (resample2_const ups hups _ _ _ _ · · · r c) a 0
    (imgParams_gain_line _ _ _ _ a hline kh kw n0 n1) x v hx hv, add_zero]

/-- **Gain-offset model, whole image: a linear relation is recovered in place** wherever the kernel windows feeding the pixel
    are non-degenerate (the fit exists there): if `ref = a·srcDs + b` wherever both exist, every valid corrected pixel
    equals `a·src + b` at its own location. -/
theorem whole_image_gain_offset_recovers (p : ImagePair) (a b : Rat) (kh kw : Nat) (n0 n1 : Rat) (ups : Resampling) (hups : ups ≠ .average)
    (hline : ∀ i j x y, p.srcDs i j = some x → p.ref i j = some y → y = a * x + b)
    (r c : Int) (x v : Rat) (hx : p.src r c = some x) (hv : p.corrected .gainOffset kh kw n0 n1 ups r c = some v) :
    v = a * x + b :=
  correctedWith_of_const_params p _ .gainOffset kh kw n0 n1 r c (resample2_const ups hups _ _ _ _ · · · r c) a b
    (imgParams_gainOffset_line _ _ _ _ a b hline kh kw n0 n1) x v hx hv

/-- **Scale laws, whole image** (C07): multiplying the source by `s > 0` and the reference by `t > 0` multiplies every
    corrected pixel by `t` and leaves validity unchanged - for the gain and gain-offset models, every geometry, kernel and
    resampling method. -/
theorem whole_image_scale (p : ImagePair) (s t : Rat) (hs : 0 < s) (ht : 0 < t) (model : Model) (hm : model ≠ .gainBlkOffset)
    (kh kw : Nat) (n0 n1 : Rat) (ups : Resampling) (r c : Int) :
    ({ p with src := p.src.scale s, ref := p.ref.scale t } : ImagePair).corrected model kh kw n0 n1 ups r c
      = (p.corrected model kh kw n0 n1 ups r c).map (t * ·) :=
  correctedWith_scale p _ r c (resample2_scale ups _ _ _ _ · · r c) s t hs ht model hm kh kw n0 n1

end Homonim
