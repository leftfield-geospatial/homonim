/-
  E2EPartial — block invariance of partial masking on the reference grid, and its exact limits (serves C17; finding D8).

  The statement first proposed - for every model and all data - is FALSE (`partial_mask_needs_total_fit` below): near the edge
  of a block's input window the kernel sums of the block differ from the whole image's, and although partial masking only
  asks *whether* a pixel carries parameters, a fit can divide by zero over one window and not over the other.  It holds as
  soon as the fit succeeds at every jointly valid pixel (`ImagePair.FitTotal`, `Lemmas/PartialMask.lean`), which the gain
  model does on positive source data.
-/
import Homonim.Lemmas.PartialMask
namespace Homonim

/-- **Partial masking is block-transparent away from ties, for a fit that never degenerates** (every model): if the fit
    succeeds at every jointly valid reference pixel, for the whole pair and for the pair as the block reads it, and the
    reference pixel under the centre of source pixel `(r, c)` lies in the output window of the block that writes `(r, c)`,
    the block computes for `(r, c)` the validity the single-block run computes. -/
theorem partial_mask_block_transparent_of_fit (p : ImagePair) (hSr : 0 < p.Sr.p) (hSc : 0 < p.Sc.p) (hRr : 0 < p.Rr.p)
    (hRc : 0 < p.Rc.p) (model : Model) (kh kw : Nat) (n0 n1 : Rat)
    (sr sc vr vc : Int) (hvr : ((kh / 2 : Nat) : Int) + 1 ≤ vr) (hvc : ((kw / 2 : Nat) : Int) + 1 ≤ vc) (kr kc : Nat)
    (hfit : p.FitTotal model kh kw n0 n1)
    (hfitB : (p.restrict (p.blockRows sr vr kr).pin (p.blockCols sc vc kc).pin (p.blockRows sr vr kr).oin
      (p.blockCols sc vc kc).oin).FitTotal model kh kw n0 n1)
    (r c : Int) (hr : (p.blockRows sr vr kr).oout.lo ≤ r ∧ r < (p.blockRows sr vr kr).oout.hi)
    (hc : (p.blockCols sc vc kc).oout.lo ≤ c ∧ c < (p.blockCols sc vc kc).oout.hi)
    (hnr : (p.blockRows sr vr kr).pout.lo ≤ nearestIdx p.Rr p.Sr r ∧ nearestIdx p.Rr p.Sr r < (p.blockRows sr vr kr).pout.hi)
    (hnc : (p.blockCols sc vc kc).pout.lo ≤ nearestIdx p.Rc p.Sc c ∧ nearestIdx p.Rc p.Sc c < (p.blockCols sc vc kc).pout.hi) :
    p.partialValidByBlock model kh kw n0 n1 sr sc vr vc kr kc r c = p.partialValid model kh kw n0 n1 r c :=
  partial_mask_core p hSr hSc hRr hRc model kh kw n0 n1 _ _ _ _ hfit hfitB
    (p.blockRows_covers sr vr _ (by omega) hvr kr) (p.blockCols_covers sc vc _ (by omega) hvc kc) r c hr hc hnr hnc

/-- **Partial masking is block-transparent away from ties** (gain model, positive source data): if the reference pixel
    under the centre of source pixel `(r, c)` lies in the output window of the block that writes `(r, c)` - which is the
    case unless the centre sits exactly on a block boundary of the reference grid -, the block computes for `(r, c)` the
    validity the single-block run computes.

    (Statement first proposed: the same for every `model : Model` and without `hposS`; refuted by
    `partial_mask_needs_total_fit`.) -/
theorem partial_mask_block_transparent (p : ImagePair) (hSr : 0 < p.Sr.p) (hSc : 0 < p.Sc.p) (hRr : 0 < p.Rr.p)
    (hRc : 0 < p.Rc.p) (hposS : ∀ r c x, p.src r c = some x → 0 < x) (kh kw : Nat) (n0 n1 : Rat)
    (sr sc vr vc : Int) (hvr : ((kh / 2 : Nat) : Int) + 1 ≤ vr) (hvc : ((kw / 2 : Nat) : Int) + 1 ≤ vc) (kr kc : Nat)
    (r c : Int) (hr : (p.blockRows sr vr kr).oout.lo ≤ r ∧ r < (p.blockRows sr vr kr).oout.hi)
    (hc : (p.blockCols sc vc kc).oout.lo ≤ c ∧ c < (p.blockCols sc vc kc).oout.hi)
    (hnr : (p.blockRows sr vr kr).pout.lo ≤ nearestIdx p.Rr p.Sr r ∧ nearestIdx p.Rr p.Sr r < (p.blockRows sr vr kr).pout.hi)
    (hnc : (p.blockCols sc vc kc).pout.lo ≤ nearestIdx p.Rc p.Sc c ∧ nearestIdx p.Rc p.Sc c < (p.blockCols sc vc kc).pout.hi) :
    p.partialValidByBlock .gain kh kw n0 n1 sr sc vr vc kr kc r c = p.partialValid .gain kh kw n0 n1 r c := by
  by_cases hk : kh = 0 ∨ kw = 0
  · show (((p.restrict _ _ _ _).src r c).isSome && (p.restrict _ _ _ _).keepEroded .gain kh kw n0 n1 _ _) =
      ((p.src r c).isSome && p.keepEroded .gain kh kw n0 n1 _ _)
    rw [keepEroded_false_of_empty_kernel _ .gain kh kw hk, keepEroded_false_of_empty_kernel p .gain kh kw hk,
      Bool.and_false, Bool.and_false]
  · exact partial_mask_block_transparent_of_fit p hSr hSc hRr hRc .gain kh kw n0 n1 sr sc vr vc hvr hvc kr kc
      (fitTotal_gain_of_pos p hposS kh kw (by omega) (by omega) n0 n1)
      (fitTotal_gain_of_pos _ (fun r c x h => hposS r c x (p.src.restrict_eq_some h)) kh kw (by omega) (by omega) n0 n1)
      r c hr hc hnr hnc

/-! ### the two limits, as checked witnesses -/

/-- the hypotheses of `partial_mask_block_transparent` that can be computed: positive pixel sizes, overlap at least the
    kernel radius + 1, `(r, c)` in the output window `oout` of block `(kr, kc)`, and (`hnr`, `hnc`) the reference pixel under
    the centre of `(r, c)` in the block's reference output window `pout` -/
def PartialMaskHyps (p : ImagePair) (kh kw : Nat) (sr sc vr vc : Int) (kr kc : Nat) (r c : Int) (ties : Bool) : Prop :=
  (0 < p.Sr.p ∧ 0 < p.Sc.p ∧ 0 < p.Rr.p ∧ 0 < p.Rc.p) ∧
  (((kh / 2 : Nat) : Int) + 1 ≤ vr ∧ ((kw / 2 : Nat) : Int) + 1 ≤ vc) ∧
  ((p.blockRows sr vr kr).oout.lo ≤ r ∧ r < (p.blockRows sr vr kr).oout.hi) ∧
  ((p.blockCols sc vc kc).oout.lo ≤ c ∧ c < (p.blockCols sc vc kc).oout.hi) ∧
  (ties = false →
    ((p.blockRows sr vr kr).pout.lo ≤ nearestIdx p.Rr p.Sr r ∧ nearestIdx p.Rr p.Sr r < (p.blockRows sr vr kr).pout.hi) ∧
    ((p.blockCols sc vc kc).pout.lo ≤ nearestIdx p.Rc p.Sc c ∧ nearestIdx p.Rc p.Sc c < (p.blockCols sc vc kc).pout.hi))

instance (p : ImagePair) (kh kw : Nat) (sr sc vr vc : Int) (kr kc : Nat) (r c : Int) (ties : Bool) :
    Decidable (PartialMaskHyps p kh kw sr sc vr vc kr kc r c ties) := by
  unfold PartialMaskHyps; exact inferInstance

/-- identical 6 x 3 grids (unit pixels), source value `xs[r]` in row `r`, reference 1 everywhere inside the image -/
def degeneratePair (xs : List Rat) : ImagePair :=
  { Sr := ⟨0, 1, 6⟩, Sc := ⟨0, 1, 3⟩, Rr := ⟨0, 1, 6⟩, Rc := ⟨0, 1, 3⟩
    src := fun r c => if 0 ≤ r ∧ r < 6 ∧ 0 ≤ c ∧ c < 3 then some (xs.getD r.toNat 0) else none
    ref := fun i j => if 0 ≤ i ∧ i < 6 ∧ 0 ≤ j ∧ j < 3 then some 1 else none }

/-- **The fit must not degenerate** (why the statement first proposed is false).  Identical 6 x 3 grids, 3 x 1 kernel,
    overlap (2, 1), block shape (3, 3): two blocks, block (0, 0) reads reference rows 0..4 and writes rows 0..2.  Source
    pixel (2, 1) is written by block (0, 0), sits in the middle of its own reference pixel (no tie), and its eroded window
    reaches reference row 4, whose kernel window (rows 3, 4, 5) the block sees only in part (rows 3, 4):
      * gain model, source rows `1 1 1 1 -1 5`: the block's source sum at row 4 is `1 - 1 = 0` (no gain), the whole image's
        is `5`: the block masks the pixel, the single-block run keeps it;
      * gain model, source rows `1 1 1 1 1 -2`: the other way round;
      * gain-offset model, *positive* source rows `1 2 1 2 2 1`: the block sees a constant source in that window (zero
        variance, no OLS fit), the whole image does not: positivity does not rescue the two-parameter model. -/
theorem partial_mask_needs_total_fit :
    (PartialMaskHyps (degeneratePair [1, 1, 1, 1, -1, 5]) 3 1 3 3 2 1 0 0 2 1 false ∧
      (degeneratePair [1, 1, 1, 1, -1, 5]).partialValidByBlock .gain 3 1 0 0 3 3 2 1 0 0 2 1 = false ∧
      (degeneratePair [1, 1, 1, 1, -1, 5]).partialValid .gain 3 1 0 0 2 1 = true) ∧
    (PartialMaskHyps (degeneratePair [1, 1, 1, 1, 1, -2]) 3 1 3 3 2 1 0 0 2 1 false ∧
      (degeneratePair [1, 1, 1, 1, 1, -2]).partialValidByBlock .gain 3 1 0 0 3 3 2 1 0 0 2 1 = true ∧
      (degeneratePair [1, 1, 1, 1, 1, -2]).partialValid .gain 3 1 0 0 2 1 = false) ∧
    (PartialMaskHyps (degeneratePair [1, 2, 1, 2, 2, 1]) 3 1 3 3 2 1 0 0 2 1 false ∧
      (degeneratePair [1, 2, 1, 2, 2, 1]).partialValidByBlock .gainOffset 3 1 0 0 3 3 2 1 0 0 2 1 = false ∧
      (degeneratePair [1, 2, 1, 2, 2, 1]).partialValid .gainOffset 3 1 0 0 2 1 = true) := by
  decide +kernel

/-- the statement first proposed (every model, all data) is refuted -/
theorem partial_mask_original_statement_false :
    ¬ (∀ (p : ImagePair) (_ : 0 < p.Sr.p) (_ : 0 < p.Sc.p) (_ : 0 < p.Rr.p) (_ : 0 < p.Rc.p) (model : Model)
      (kh kw : Nat) (n0 n1 : Rat) (sr sc vr vc : Int) (_ : ((kh / 2 : Nat) : Int) + 1 ≤ vr)
      (_ : ((kw / 2 : Nat) : Int) + 1 ≤ vc) (kr kc : Nat) (r c : Int)
      (_ : (p.blockRows sr vr kr).oout.lo ≤ r ∧ r < (p.blockRows sr vr kr).oout.hi)
      (_ : (p.blockCols sc vc kc).oout.lo ≤ c ∧ c < (p.blockCols sc vc kc).oout.hi)
      (_ : (p.blockRows sr vr kr).pout.lo ≤ nearestIdx p.Rr p.Sr r ∧
        nearestIdx p.Rr p.Sr r < (p.blockRows sr vr kr).pout.hi)
      (_ : (p.blockCols sc vc kc).pout.lo ≤ nearestIdx p.Rc p.Sc c ∧
        nearestIdx p.Rc p.Sc c < (p.blockCols sc vc kc).pout.hi),
      p.partialValidByBlock model kh kw n0 n1 sr sc vr vc kr kc r c = p.partialValid model kh kw n0 n1 r c) := by
  intro h
  obtain ⟨⟨⟨h1, h2, h3, h4⟩, ⟨h5, h6⟩, h7, h8, h9⟩, hb, hw⟩ := partial_mask_needs_total_fit.1
  have := h (degeneratePair [1, 1, 1, 1, -1, 5]) h1 h2 h3 h4 .gain 3 1 0 0 3 3 2 1 h5 h6 0 0 2 1 h7 h8 (h9 rfl).1 (h9 rfl).2
  rw [hb, hw] at this
  cases this

/-- 0.4 m source (10 x 6) on a 0.8 m reference (6 x 3), in units of 0.1 m; the rows are offset by half a source pixel, so
    that the centre of every odd source row lies on a reference row edge; the columns are aligned.  All pixels inside the
    images are valid (source 1, reference 2). -/
def tiePair : ImagePair :=
  { Sr := ⟨2, 4, 10⟩, Sc := ⟨0, 4, 6⟩, Rr := ⟨0, 8, 6⟩, Rc := ⟨0, 8, 3⟩
    src := fun r c => if 0 ≤ r ∧ r < 10 ∧ 0 ≤ c ∧ c < 6 then some 1 else none
    ref := fun i j => if 0 ≤ i ∧ i < 6 ∧ 0 ≤ j ∧ j < 3 then some 2 else none }

theorem tiePair_src_pos : ∀ r c x, tiePair.src r c = some x → 0 < x := by
  intro r c x h
  unfold tiePair at h
  simp only at h
  split at h
  · cases h; decide
  · cases h

/-- **The tie hypotheses `hnr` / `hnc` cannot be dropped.**  `tiePair`, gain model, 1 x 1 kernel, overlap (1, 1), block shape
    (3, 3): the processing window is 6 x 3 reference pixels, split in two blocks along the rows.  Block (0, 0) has the
    reference output rows `pout = [0, 3)`, reads the reference rows `pin = [0, 4)` and writes the source rows
    `oout = [0, 6)` (both corners of `round_window_to_grid` are ties, rounded to even).  The centre of source row 5 lies
    exactly on the edge between reference rows 2 and 3, which is the block boundary; nearest-neighbour re-projection puts it
    in reference row 3 = `pout.hi`, just outside `pout` (`hnr` fails; every other hypothesis holds, and the data are
    positive).  The eroded window of reference row 3 reaches row 4, which block (0, 0) did not read: the block masks source
    pixel (5, 2), the single-block run - where reference rows 2, 3, 4 are all completely covered and fitted - keeps it. -/
theorem partial_mask_tie_counterexample :
    PartialMaskHyps tiePair 1 1 3 3 1 1 0 0 5 2 true ∧
    nBlocks (refWin tiePair.Sr tiePair.Rr).lo (refWin tiePair.Sr tiePair.Rr).hi 3 = 2 ∧
    nBlocks (refWin tiePair.Sc tiePair.Rc).lo (refWin tiePair.Sc tiePair.Rc).hi 3 = 1 ∧
    -- the centre of source row 5 is the upper edge of reference row 3, the first row after the block's output rows
    2 * tiePair.Sr.edge 5 + tiePair.Sr.p = 2 * tiePair.Rr.edge 3 ∧
    nearestIdx tiePair.Rr tiePair.Sr 5 = 3 ∧ (tiePair.blockRows 3 1 0).pout = ⟨0, 3⟩ ∧
    (tiePair.blockRows 3 1 0).pin = ⟨0, 4⟩ ∧ (tiePair.blockRows 3 1 0).oout = ⟨0, 6⟩ ∧
    -- `hnc` holds
    ((tiePair.blockCols 3 1 0).pout.lo ≤ nearestIdx tiePair.Rc tiePair.Sc 2 ∧
      nearestIdx tiePair.Rc tiePair.Sc 2 < (tiePair.blockCols 3 1 0).pout.hi) ∧
    -- and the two runs disagree
    tiePair.partialValidByBlock .gain 1 1 0 0 3 3 1 1 0 0 5 2 = false ∧
    tiePair.partialValid .gain 1 1 0 0 5 2 = true := by
  decide +kernel

/-- `partial_mask_block_transparent` without `hnr` / `hnc` is refuted -/
theorem partial_mask_tie_hypotheses_needed :
    ¬ (∀ (p : ImagePair) (_ : 0 < p.Sr.p) (_ : 0 < p.Sc.p) (_ : 0 < p.Rr.p) (_ : 0 < p.Rc.p)
      (_ : ∀ r c x, p.src r c = some x → 0 < x) (kh kw : Nat) (n0 n1 : Rat) (sr sc vr vc : Int)
      (_ : ((kh / 2 : Nat) : Int) + 1 ≤ vr) (_ : ((kw / 2 : Nat) : Int) + 1 ≤ vc) (kr kc : Nat) (r c : Int)
      (_ : (p.blockRows sr vr kr).oout.lo ≤ r ∧ r < (p.blockRows sr vr kr).oout.hi)
      (_ : (p.blockCols sc vc kc).oout.lo ≤ c ∧ c < (p.blockCols sc vc kc).oout.hi),
      p.partialValidByBlock .gain kh kw n0 n1 sr sc vr vc kr kc r c = p.partialValid .gain kh kw n0 n1 r c) := by
  intro h
  obtain ⟨⟨⟨h1, h2, h3, h4⟩, ⟨h5, h6⟩, h7, h8, _⟩, _, _, _, _, _, _, _, _, hb, hw⟩ := partial_mask_tie_counterexample
  have := h tiePair h1 h2 h3 h4 tiePair_src_pos 1 1 0 0 3 3 1 1 h5 h6 0 0 5 2 h7 h8
  rw [hb, hw] at this
  cases this

end Homonim
