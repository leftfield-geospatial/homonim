/-
  E2EMask — end-to-end mask fidelity of the whole-image fusion model (serves C03).
-/
import Homonim.Props.E2E
namespace Homonim

/-- **No invented pixels** (whole image, every model, every up-sampling method): a corrected pixel is valid only where the
    source pixel is. -/
theorem whole_image_no_invented_pixels (p : ImagePair) (model : Model) (kh kw : Nat) (n0 n1 : Rat) (ups : Resampling)
    (r c : Int) (v : Rat) (h : p.corrected model kh kw n0 n1 ups r c = some v) : (p.src r c).isSome = true := by
  unfold ImagePair.corrected at h
  cases hs : p.src r c with
  | none => rw [hs] at h; cases h
  | some x => rfl

/-- **No lost pixels** (whole image, gain model, positive data, nearest / bilinear up-sampling, kernel at least 1 x 1): a
    valid source pixel inside the source image is valid in the corrected image whenever the reference pixel that contains
    its centre exists and is valid.  (Only the source needs to be positive: the gain `R / S` exists as soon as `S ≠ 0`.) -/
theorem whole_image_no_lost_pixels (p : ImagePair) (hSr : 0 < p.Sr.p) (hSc : 0 < p.Sc.p) (hRr : 0 < p.Rr.p) (hRc : 0 < p.Rc.p)
    (kh kw : Nat) (hkh : 0 < kh) (hkw : 0 < kw) (n0 n1 : Rat) (ups : Resampling) (hups : ups ≠ .average)
    (hposS : ∀ r c x, p.src r c = some x → 0 < x)
    (r c : Int) (hr : 0 ≤ r ∧ r < p.Sr.n) (hc : 0 ≤ c ∧ c < p.Sc.n) (x : Rat) (hx : p.src r c = some x)
    (hi : 0 ≤ nearestIdx p.Rr p.Sr r ∧ nearestIdx p.Rr p.Sr r < p.Rr.n)
    (hj : 0 ≤ nearestIdx p.Rc p.Sc c ∧ nearestIdx p.Rc p.Sc c < p.Rc.n)
    (href : (p.ref (nearestIdx p.Rr p.Sr r) (nearestIdx p.Rc p.Sc c)).isSome = true) :
    (p.corrected .gain kh kw n0 n1 ups r c).isSome = true := by
  rw [ImagePair.corrected_eq_with,
    correctedWith_isSome p _ .gain kh kw n0 n1 r c _ _ (resample2_isSome ups hups _ _ _ _ hRr hRc · r c),
    params_gain_isSome p hposS kh kw hkh hkw n0 n1 _ _ ⟨hi.1, hi.2, hj.1, hj.2⟩, href,
    srcDs_isSome_under p hSr hSc hRr hRc r c hr hc (by rw [hx]; rfl), hx]
  rfl

/-- **The same through any block**: under the hypotheses of `block_transparent`, the block that writes the pixel gives it the
    validity of the whole-image run - hence, with the two theorems above, exactly the source's validity on positive data. -/
theorem block_mask_eq_whole (p : ImagePair) (hSr : 0 < p.Sr.p) (hSc : 0 < p.Sc.p) (hRr : 0 < p.Rr.p) (hRc : 0 < p.Rc.p)
    (model : Model) (kh kw : Nat) (n0 n1 : Rat) (ups : Resampling) (hups : ups ≠ .average)
    (sr sc vr vc : Int) (hvr : ((kh / 2 : Nat) : Int) + 1 ≤ vr) (hvc : ((kw / 2 : Nat) : Int) + 1 ≤ vc) (kr kc : Nat)
    (r c : Int) (hr : (p.blockRows sr vr kr).oout.lo ≤ r ∧ r < (p.blockRows sr vr kr).oout.hi)
    (hc : (p.blockCols sc vc kc).oout.lo ≤ c ∧ c < (p.blockCols sc vc kc).oout.hi) :
    (p.correctedByBlock model kh kw n0 n1 ups sr sc vr vc kr kc r c).isSome = (p.corrected model kh kw n0 n1 ups r c).isSome := by
  rw [block_transparent p hSr hSc hRr hRc model kh kw n0 n1 ups hups sr sc vr vc hvr hvc kr kc r c hr hc]

/-! non-vacuity: a 2 x 2 source (value 3) under one reference pixel (value 6), 1 x 1 kernel, bilinear up-sampling -/
example :
    let p : ImagePair :=
      { Sr := ⟨0, 1, 2⟩, Sc := ⟨0, 1, 2⟩, Rr := ⟨0, 2, 1⟩, Rc := ⟨0, 2, 1⟩
        src := fun r c => if 0 ≤ r ∧ r < 2 ∧ 0 ≤ c ∧ c < 2 then some 3 else none
        ref := fun i j => if i = 0 ∧ j = 0 then some 6 else none }
    p.corrected .gain 1 1 0 0 .bilinear 1 1 = some 6 ∧ p.corrected .gain 1 1 0 0 .nearest 0 1 = some 6 ∧
      p.corrected .gain 1 1 0 0 .bilinear 2 1 = none := by decide +kernel


end Homonim
