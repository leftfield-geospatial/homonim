/-
  E2EParam — the parameter image of the whole-image model (reference-grid processing) (serves C05, C14).

  C05, first sentence: "the parameter image does not depend on how the image is partitioned into blocks".
  C14: "without partial masking its valid pixels are those of the processing grid where both images are valid".
-/
import Homonim.Lemmas.RefGrid
namespace Homonim

/-- **The parameter image does not depend on the partition** (reference-grid processing, overlap ≥ kernel radius + 1): the
    parameters a block writes at a processing pixel of its output window - fitted on what the block read: the reference through
    its input window, the source through the expanded source window - are those of the single-block run: same validity, same
    gain, same offset, same R².  Every model given the same block normalisation; every geometry, kernel, block shape. -/
theorem param_image_block_transparent (p : ImagePair) (hSr : 0 < p.Sr.p) (hSc : 0 < p.Sc.p) (hRr : 0 < p.Rr.p) (hRc : 0 < p.Rc.p)
    (model : Model) (kh kw : Nat) (n0 n1 : Rat)
    (sr sc vr vc : Int) (hvr : ((kh / 2 : Nat) : Int) + 1 ≤ vr) (hvc : ((kw / 2 : Nat) : Int) + 1 ≤ vc)
    (kr kc : Nat) (i j : Int)
    (hi : (p.blockRows sr vr kr).pout.lo ≤ i ∧ i < (p.blockRows sr vr kr).pout.hi)
    (hj : (p.blockCols sc vc kc).pout.lo ≤ j ∧ j < (p.blockCols sc vc kc).pout.hi) :
    (p.restrict (p.blockRows sr vr kr).pin (p.blockCols sc vc kc).pin (p.blockRows sr vr kr).oin (p.blockCols sc vc kc).oin).params
        model kh kw n0 n1 i j = p.params model kh kw n0 n1 i j :=
  restrict_params_agree p hSr hSc hRr hRc _ _ model kh kw n0 n1 i j
    (fun a ha => (p.blockRows_covers sr vr _ (by omega) hvr kr).near a (by omega))
    (fun b hb => (p.blockCols_covers sc vc _ (by omega) hvc kc).near b (by omega))

/-- **Two partitions write the same parameter image.** -/
theorem param_image_partitions_agree (p : ImagePair) (hSr : 0 < p.Sr.p) (hSc : 0 < p.Sc.p) (hRr : 0 < p.Rr.p) (hRc : 0 < p.Rc.p)
    (model : Model) (kh kw : Nat) (n0 n1 : Rat)
    (sr sc vr vc sr' sc' vr' vc' : Int)
    (hvr : ((kh / 2 : Nat) : Int) + 1 ≤ vr) (hvc : ((kw / 2 : Nat) : Int) + 1 ≤ vc)
    (hvr' : ((kh / 2 : Nat) : Int) + 1 ≤ vr') (hvc' : ((kw / 2 : Nat) : Int) + 1 ≤ vc')
    (kr kc kr' kc' : Nat) (i j : Int)
    (hi : (p.blockRows sr vr kr).pout.lo ≤ i ∧ i < (p.blockRows sr vr kr).pout.hi)
    (hj : (p.blockCols sc vc kc).pout.lo ≤ j ∧ j < (p.blockCols sc vc kc).pout.hi)
    (hi' : (p.blockRows sr' vr' kr').pout.lo ≤ i ∧ i < (p.blockRows sr' vr' kr').pout.hi)
    (hj' : (p.blockCols sc' vc' kc').pout.lo ≤ j ∧ j < (p.blockCols sc' vc' kc').pout.hi) :
    (p.restrict (p.blockRows sr vr kr).pin (p.blockCols sc vc kc).pin (p.blockRows sr vr kr).oin (p.blockCols sc vc kc).oin).params
        model kh kw n0 n1 i j =
      (p.restrict (p.blockRows sr' vr' kr').pin (p.blockCols sc' vc' kc').pin (p.blockRows sr' vr' kr').oin
        (p.blockCols sc' vc' kc').oin).params model kh kw n0 n1 i j := by
  rw [param_image_block_transparent p hSr hSc hRr hRc model kh kw n0 n1 sr sc vr vc hvr hvc kr kc i j hi hj,
    param_image_block_transparent p hSr hSc hRr hRc model kh kw n0 n1 sr' sc' vr' vc' hvr' hvc' kr' kc' i j hi' hj']

/-- **No parameters where either image is invalid** (every model): a processing pixel carries parameters only if it lies in the
    reference image, the source as seen on the reference grid is valid there, and the reference is valid there. -/
theorem param_valid_only_where_both_valid (p : ImagePair) (model : Model) (kh kw : Nat) (n0 n1 : Rat) (i j : Int)
    (h : (p.params model kh kw n0 n1 i j).isSome = true) :
    (0 ≤ i ∧ i < p.Rr.n ∧ 0 ≤ j ∧ j < p.Rc.n) ∧ (p.srcDs i j).isSome = true ∧ (p.ref i j).isSome = true :=
  imgParams_isSome_imp h

/-- **The parameter image is valid exactly where both images are** (gain model, positive source, kernel at least 1 x 1). -/
theorem param_valid_iff_both_valid (p : ImagePair) (hposS : ∀ r c x, p.src r c = some x → 0 < x)
    (kh kw : Nat) (hkh : 0 < kh) (hkw : 0 < kw) (n0 n1 : Rat) (i j : Int)
    (hi : 0 ≤ i ∧ i < p.Rr.n) (hj : 0 ≤ j ∧ j < p.Rc.n) :
    (p.params .gain kh kw n0 n1 i j).isSome = ((p.srcDs i j).isSome && (p.ref i j).isSome) :=
  params_gain_isSome p hposS kh kw hkh hkw n0 n1 i j ⟨hi.1, hi.2, hj.1, hj.2⟩

/-- **Source-grid processing: the corrected image is the parameter image applied** (C14): a corrected pixel is valid exactly
    when the source pixel is valid and carries parameters, and then equals `gain * source + offset` with the parameters fitted
    at that very pixel - no resampling lies between the parameter image and the corrected image. -/
theorem src_grid_corrected_is_param_applied (p : ImagePair) (model : Model) (kh kw : Nat) (n0 n1 : Rat) (m : Resampling) (r c : Int)
    (hr : 0 ≤ r ∧ r < p.Sr.n) (hc : 0 ≤ c ∧ c < p.Sc.n) :
    p.correctedSrcGrid model kh kw n0 n1 m r c =
      match p.src r c, fitAt (p.blockSrc m) model kh kw false none n0 n1 (fun _ _ => none) r.toNat c.toNat with
      | some x, some prm => some (prm.gain * x + prm.offset)
      | _, _ => none := by
  unfold ImagePair.correctedSrcGrid
  rw [if_pos ⟨hr.1, hr.2, hc.1, hc.2⟩]
  rfl

/-! non-vacuity: the D1 geometry (0.4 m source on a 0.8 m reference at a half-pixel offset), 3 x 3 kernel, overlap 2, block
    length 5: block 1 is a real block and processing pixel (6, 6) lies in its output window -/
example :
    let p : ImagePair := ⟨⟨13, 4, 31⟩, ⟨13, 4, 31⟩, ⟨1, 8, 20⟩, ⟨1, 8, 20⟩, fun _ _ => none, fun _ _ => none⟩
    1 < nBlocks (refWin p.Sr p.Rr).lo (refWin p.Sr p.Rr).hi 5 ∧
      (p.blockRows 5 2 1).pout.lo ≤ 6 ∧ 6 < (p.blockRows 5 2 1).pout.hi ∧
      (p.blockCols 5 2 1).pout.lo ≤ 6 ∧ 6 < (p.blockCols 5 2 1).pout.hi := by decide

end Homonim
