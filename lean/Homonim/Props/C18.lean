/-
  C18 — Outputs sit on the right grid, in the right band order, and describe themselves (decision logic).
-/
import Homonim.Model.Layout
import Homonim.Model.Geom
import Homonim.Lemmas.Assoc
import Homonim.Props.C15
import Homonim.Props.C19

namespace Homonim

/-- **Processing grid**: under `auto` the coarser image is the processing grid (ties go to the reference); an explicit
    choice is kept -/
theorem resolve_proc_crs_auto (sArea rArea : Int) :
    (resolveProcCrs sArea rArea .auto = .ref ↔ sArea ≤ rArea) ∧ (resolveProcCrs sArea rArea .auto = .src ↔ rArea < sArea) ∧
    resolveProcCrs sArea rArea .src = .src ∧ resolveProcCrs sArea rArea .ref = .ref ∧
    resolveProcCrs sArea rArea .auto ≠ .auto := by
  have hauto : resolveProcCrs sArea rArea .auto = if sArea ≤ rArea then .ref else .src := rfl
  rw [hauto]
  by_cases h : sArea ≤ rArea
  · rw [if_pos h]
    exact ⟨⟨fun _ => h, fun _ => rfl⟩, ⟨nofun, fun h' => absurd h (Int.not_le.2 h')⟩, rfl, rfl, nofun⟩
  · rw [if_neg h]
    exact ⟨⟨nofun, fun h' => absurd h' h⟩, ⟨fun _ => Int.not_le.1 h, fun _ => rfl⟩, rfl, rfl, nofun⟩

theorem get_set_same (p : Profile) (k v : String) : (p.set k v).get k = some v :=
  congrArg (Option.map Prod.snd) (find?_put_same p k v)

theorem get_set_other (p : Profile) (k k' v : String) (h : k' ≠ k) : (p.set k v).get k' = p.get k' :=
  congrArg (Option.map Prod.snd) (find?_put_other p k k' v h)

/-- folding the configuration over a profile leaves keys the configuration does not mention alone -/
theorem fold_set_other {cfg : List (String × String)} {p : Profile} {k : String} (h : ∀ kv ∈ cfg, kv.1 ≠ k) :
    (cfg.foldl (fun p kv => p.set kv.1 kv.2) p).get k = p.get k := by
  induction cfg generalizing p with
  | nil => rfl
  | cons kv rest ih =>
    exact (ih fun x hx => h x (List.mem_cons_of_mem _ hx)).trans
      (get_set_other p kv.1 k kv.2 (h kv List.mem_cons_self).symm)

/-- **Geometry comes from the input image**: size, CRS and geo-transform of the merged profile are those of the source
    (corrected image) / processing image (parameter image), whatever the output configuration and driver -/
theorem merge_profile_geometry (inP : Profile) (cfgDriver : String) (cfgFlat : List (String × String))
    (k : String) (hk : k ∈ ["width", "height", "crs", "transform"]) (hcfg : ∀ kv ∈ cfgFlat, kv.1 ≠ k) :
    (combineProfiles inP cfgDriver cfgFlat).get k = inP.get k := by
  have hcopy : ∀ k ∈ ["width", "height", "crs", "transform"], copyKeys.contains k = true := by decide +kernel
  unfold combineProfiles
  rw [fold_set_other hcfg]
  split
  · exact congrArg (Option.map Prod.snd) (find?_key_filter inP copyKeys.contains k (hcopy k hk))
  · rfl

/-- **Format comes from the configuration**: the last value the configuration gives for a key is the merged value -/
theorem merge_profile_format (inP : Profile) (cfgDriver : String) (pre : List (String × String)) (k v : String)
    (post : List (String × String)) (hpost : ∀ kv ∈ post, kv.1 ≠ k) :
    (combineProfiles inP cfgDriver (pre ++ [(k, v)] ++ post)).get k = some v := by
  unfold combineProfiles
  rw [List.foldl_append, List.foldl_append, fold_set_other hpost]
  exact get_set_same _ k v

/-- **Storage orientation is undone exactly**: flipping twice is the identity -/
theorem flip_involutive {α : Type} (rows : List (List α)) : flipRows (flipRows rows) = rows :=
  List.reverse_reverse rows

/-- **Every effective setting is recorded**: each key of the model and block configuration dictionaries, the model and
    the kernel shape are passed to `_set_metadata` - here: the keys that reach the tags are exactly the generated
    dictionary keys (checked against the live tables) -/
theorem tags_complete :
    ∀ k ∈ Generated.modelConfigKeys ++ Generated.blockConfigKeys, k ∈ Generated.fuseKwargNames := by
  -- the two dictionaries are among the three of `config_keys_reachable` (C19)
  intro k hk
  apply config_keys_reachable k
  rw [List.mem_append, List.mem_append]
  exact .inl (List.mem_append.1 hk).symm

/-- **Round trip of the band matching**: give the corrected bands the wavelengths of the reference bands they were fused
    with (which fuse copies into the corrected image); if the reference wavelengths are pairwise distinct, matching the
    corrected image against the same reference selects exactly those reference bands again. -/
theorem roundtrip_bands (corrB : List Nat) (refB : List Nat) (refW : List (Option ℚ)) (tol : ℚ) (htol : 0 ≤ tol)
    (hr : refW.length = refB.length) (hnm : corrB.length ≤ refB.length) (hnd : refB.Nodup) (hne : corrB ≠ [])
    (rw : Nat → ℚ) (hrw : ∀ j, j < refB.length → refW[j]? = some (some (rw j)) ∧ 0 < rw j)
    (hdist : ∀ j j', j < refB.length → j' < refB.length → rw j = rw j' → j = j')
    (assign : Nat → Nat) (hin : ∀ i, i < corrB.length → assign i < refB.length)
    (hinj : ∀ i i', i < corrB.length → i' < corrB.length → assign i = assign i' → i = i') :
    matchBands corrB ((List.range corrB.length).map fun i => some (rw (assign i))) refB refW false tol =
      .ok (corrB, (List.range corrB.length).map fun i => refB.getD (assign i) 0) := by
  -- every corrected band is at relative distance 0 from its own reference band, and at a positive one from any other
  have h0 : ∀ i, |rw (assign i) - rw (assign i)| / rw (assign i) = 0 := fun i => by
    rw [sub_self, abs_zero, zero_div]
  apply match_nearest corrB _ refB refW tol (by rw [List.length_map, List.length_range]) hr hnm hnd hne
    (fun i => rw (assign i)) rw
  · intro i hi
    exact ⟨by rw [List.getElem?_map, List.getElem?_range hi]; rfl, (hrw _ (hin i hi)).2⟩
  · exact fun j hj => (hrw j hj).1
  · exact hin
  · exact hinj
  · intro i j hi hj hne'
    rw [h0]
    have : rw (assign i) ≠ rw j := fun e => hne' (hdist _ _ (hin i hi) hj e).symm
    exact div_pos (abs_pos.mpr (sub_ne_zero.mpr this)) (hrw _ (hin i hi)).2
  · intro i _
    rw [h0]
    exact htol

end Homonim
