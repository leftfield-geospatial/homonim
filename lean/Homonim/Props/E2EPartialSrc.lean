/-
  E2EPartialSrc — block invariance of partial masking on the source grid (serves C17).
-/
import Homonim.Lemmas.SrcGrid
namespace Homonim

/-- the whole-run definition is the "On" pipeline with the windows the single-block run reads (every model, every
    resampling).  The source restricted to `srcWin` differs from the source only outside the source image; there the
    parameters at the centre of the eroded window are `none` on both sides, so both sides are `false`. -/
theorem partialValidSrcGrid_eq_on (p : ImagePair) (hSr : 0 < p.Sr.p) (hSc : 0 < p.Sc.p) (hRr : 0 < p.Rr.p) (hRc : 0 < p.Rc.p)
    (model : Model) (kh kw : Nat) (n0 n1 : Rat) (m : Resampling) (r c : Int) :
    p.partialValidSrcGrid model kh kw n0 n1 m r c
      = p.partialValidSrcGridOn model kh kw n0 n1 m (srcWin p.Sr p.Rr) (srcWin p.Sc p.Rc)
          (expandTo p.Sr p.Rr (srcWin p.Sr p.Rr)) (expandTo p.Sc p.Rc (srcWin p.Sc p.Rc)) r c := by
  have sa := srcWin_covers_src p.Sr p.Rr hSr hRr
  have sb := srcWin_covers_src p.Sc p.Rc hSc hRc
  have hsrc : ∀ a b : Int, 0 ≤ a ∧ a < p.Sr.n → 0 ≤ b ∧ b < p.Sc.n →
      (p.src.restrict (srcWin p.Sr p.Rr) (srcWin p.Sc p.Rc)) a b = p.src a b :=
    fun a b ha hb => p.src.restrict_of_mem (by omega) (by omega)
  rw [ImagePair.partialValidSrcGrid_eq, ImagePair.partialValidSrcGridOn_eq, show p.ref.restrict _ _ = p.refRead from rfl]
  have hk : p.keepInSrcOf model kh kw n0 n1 m (p.src.restrict (srcWin p.Sr p.Rr) (srcWin p.Sc p.Rc)) p.refRead =
      p.keepInSrcOf model kh kw n0 n1 m p.src p.refRead := by
    funext a b
    unfold ImagePair.keepInSrcOf
    rw [show p.paramsSrcOf model kh kw n0 n1 m (p.src.restrict _ _) p.refRead a b = _ from
      imgParams_congr _ _ _ _ _ _ model kh kw n0 n1 a b fun x y hx hy _ _ => ⟨hsrc x y hx hy, fun _ => rfl⟩]
  rw [hk]
  by_cases hin : 0 ≤ r ∧ r < p.Sr.n ∧ 0 ≤ c ∧ c < p.Sc.n
  · rw [hsrc r c ⟨hin.1, hin.2.1⟩ ⟨hin.2.2.1, hin.2.2.2⟩]
  · have : erodeI kh kw (p.keepInSrcOf model kh kw n0 n1 m p.src p.refRead) r c = false :=
      Bool.eq_false_iff.2 fun h => by
        have := erodeI_self kh kw _ r c h
        rw [keepInSrcOf_false_outside p model kh kw n0 n1 m _ _ r c hin] at this
        cases this
    rw [this, Bool.and_false, Bool.and_false]

/-- **Partial masking on the source grid is block-transparent** (gain model, positive source, the reference brought to the source
    grid by `average` or `nearest`): every source pixel of a block's output window gets from that block the validity the
    single-block run gives it - there is no re-projection of the mask on this grid, hence no tie condition. -/
theorem partial_mask_src_grid_block_transparent (p : ImagePair) (hSr : 0 < p.Sr.p) (hSc : 0 < p.Sc.p) (hRr : 0 < p.Rr.p)
    (hRc : 0 < p.Rc.p) (hposS : ∀ r c x, p.src r c = some x → 0 < x)
    (kh kw : Nat) (n0 n1 : Rat) (m : Resampling) (hm : m ≠ .bilinear)
    (sr sc vr vc : Int) (hvr : ((kh / 2 : Nat) : Int) + 1 ≤ vr) (hvc : ((kw / 2 : Nat) : Int) + 1 ≤ vc) (kr kc : Nat)
    (r c : Int) (hr : (p.blockRowsSrc sr vr kr).pout.lo ≤ r ∧ r < (p.blockRowsSrc sr vr kr).pout.hi)
    (hc : (p.blockColsSrc sc vc kc).pout.lo ≤ c ∧ c < (p.blockColsSrc sc vc kc).pout.hi) :
    p.partialValidSrcGridByBlock .gain kh kw n0 n1 m sr sc vr vc kr kc r c = p.partialValidSrcGrid .gain kh kw n0 n1 m r c := by
  have cr := p.blockRowsSrc_covers sr vr _ (by omega) hvr kr
  have cc := p.blockColsSrc_covers sc vc _ (by omega) hvc kc
  have sa := srcWin_covers_src p.Sr p.Rr hSr hRr
  have sb := srcWin_covers_src p.Sc p.Rc hSc hRc
  rw [ImagePair.partialValidSrcGrid_eq]
  refine (p.partialValidSrcGridOn_eq ..).trans (congrArg₂ (· && ·)
    (congrArg Option.isSome (p.src.restrict_of_mem (by have := cr.out_sub; omega) (by have := cc.out_sub; omega)))
    (erodeI_congr kh kw _ _ r c fun a b ha hb => ?_))
  by_cases hin : 0 ≤ a ∧ a < p.Sr.n ∧ 0 ≤ b ∧ b < p.Sc.n
  · -- inside the image, hence inside the processing window, the eroded window of a pixel of `pout` lies in `pin`
    have ain := cr.near a (by omega) (by omega)
    have bin := cc.near b (by omega) (by omega)
    exact (keepInSrcOf_restrict p hSr hSc hRr hRc hposS kh kw n0 n1 m hm _
        (fun r c x h => hposS r c x (p.src.restrict_eq_some h)) _ _ a b hin ain bin (p.src.restrict_of_mem ain bin)).trans
      (keepInSrcOf_restrict p hSr hSc hRr hRc hposS kh kw n0 n1 m hm _ hposS _ _ a b hin
        (by have := cr.in_sub; omega) (by have := cc.in_sub; omega) rfl).symm
  · rw [keepInSrcOf_false_outside p _ kh kw n0 n1 m _ _ a b hin, keepInSrcOf_false_outside p _ kh kw n0 n1 m _ _ a b hin]

end Homonim
