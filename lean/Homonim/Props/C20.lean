/-
  C20 — Windowed image I/O is total and places data where it belongs.
  One axis; a 2-D window is the product of a row window and a column window handled independently by the code.
-/
import Homonim.Model.WindowIO
import Homonim.Model.Blocks
import Homonim.Lemmas.Geom

namespace Homonim

/-! ### `boundedFixed`: the dataset window and the array slice -/

/-- the dataset window holds exactly the pixels of `[lo, hi)` that lie in the dataset -/
theorem mem_boundedFixed (n lo hi x : Int) :
    (boundedFixed n lo hi).1.lo ≤ x ∧ x < (boundedFixed n lo hi).1.hi ↔ max lo 0 ≤ x ∧ x < min hi n := by
  unfold boundedFixed
  simp only [min_le_iff, lt_min_iff, max_le_iff, lt_max_iff]
  omega

/-- the array slice is as long as the dataset window and, unless that is empty, starts where it starts, counted from `lo`
    (an empty dataset window can sit at `n < lo`; the slice then sits at 0) -/
theorem boundedFixed_slice (n lo hi : Int) :
    ((boundedFixed n lo hi).1.lo < (boundedFixed n lo hi).1.hi →
      (boundedFixed n lo hi).2.lo = (boundedFixed n lo hi).1.lo - lo) ∧
    (boundedFixed n lo hi).2.hi = (boundedFixed n lo hi).2.lo + ((boundedFixed n lo hi).1.hi - (boundedFixed n lo hi).1.lo) := by
  refine ⟨fun h => ?_, rfl⟩
  unfold boundedFixed at h ⊢
  simp only at h ⊢
  omega

/-- the repaired bounded window is always acceptable to GDAL: inside the dataset, non-negative size -/
theorem bounded_fixed_ok (n lo hi : Int) (hn : 0 ≤ n) :
    dsWindowOk n (boundedFixed n lo hi).1 = true := by
  unfold dsWindowOk boundedFixed
  simp only [Bool.and_eq_true, decide_eq_true_eq]
  omega

/-- cropping to the dataset only shrinks a window (its first and last pixel are pixels of `[lo, hi)`), unless nothing is left
    of it: an empty cropped window can sit outside `[lo, hi)` -/
theorem boundedFixed_subset (n lo hi : Int) (hne : (boundedFixed n lo hi).1.lo < (boundedFixed n lo hi).1.hi) :
    lo ≤ (boundedFixed n lo hi).1.lo ∧ (boundedFixed n lo hi).1.hi ≤ hi := by
  have h1 := (mem_boundedFixed n lo hi _).mp ⟨le_refl _, hne⟩
  have h2 := (mem_boundedFixed n lo hi ((boundedFixed n lo hi).1.hi - 1)).mp ⟨by omega, by omega⟩
  omega

/-- a window that misses the dataset or is empty itself is cropped to nothing -/
theorem boundedFixed_empty (n lo hi : Int) (h : hi ≤ 0 ∨ n ≤ lo ∨ hi ≤ lo) : (boundedFixed n lo hi).1.len ≤ 0 := by
  unfold Win1.len
  by_contra hc
  have := (mem_boundedFixed n lo hi _).mp ⟨le_refl _, by omega⟩
  simp only [max_le_iff, lt_min_iff] at this
  omega

/-- the repair changes nothing where the window meets the image -/
theorem bounded_fixed_eq_coded (n lo hi : Int) (h : max lo 0 ≤ min hi n) :
    boundedFixed n lo hi = boundedCoded n lo hi := by
  have h1 : min (max lo 0) n = max lo 0 := min_eq_left (le_trans h (min_le_right _ _))
  have h2 : max hi (max lo 0) = hi := max_eq_left (le_trans h (min_le_left _ _))
  have h3 : max (max lo 0 - lo) 0 = max lo 0 - lo := max_eq_left (sub_nonneg.mpr (le_max_left _ _))
  simp only [boundedFixed, boundedCoded, h1, h2, h3]

/-! ### reads -/

/-- pixel `i` of a boundless read of `[lo, hi)` is the image pixel `lo + i` where that lies in the window and the image -/
theorem readPixel_boundedFixed {α : Type} (n lo hi : Int) (img : Int → α) (nodata : α) (i : Int) :
    readPixel img nodata (boundedFixed n lo hi) i =
      if max lo 0 ≤ lo + i ∧ lo + i < min hi n then img (lo + i) else nodata := by
  simp only [← mem_boundedFixed]
  rw [readPixel]
  have hs := boundedFixed_slice n lo hi
  generalize boundedFixed n lo hi = b at hs ⊢
  by_cases hin : b.1.lo ≤ lo + i ∧ lo + i < b.1.hi
  · rw [if_pos hin, if_pos (by omega)]
    congr 1
    omega
  · rw [if_neg hin, if_neg (by omega)]

/-- **Read is total**: reading any window with non-negative size - inside, partly outside or wholly outside the
    image - succeeds. -/
theorem read_total {α : Type} (n lo hi : Int) (img : Int → α) (nodata : α) (hn : 0 ≤ n) :
    (readWindow n img nodata lo hi).isSome = true := by
  unfold readWindow
  simp only [bounded_fixed_ok n lo hi hn, if_true, Option.isSome_some]

/-- **Read specification**: the result holds, at offset `i`, the image pixel `lo + i` where that lies inside the
    image and nodata elsewhere; its length is the window's. -/
theorem read_spec {α : Type} (n lo hi : Int) (img : Int → α) (nodata : α) (hn : 0 ≤ n) :
    readWindow n img nodata lo hi =
      some ((List.range (hi - lo).toNat).map fun (i : Nat) =>
        if 0 ≤ lo + (i : Int) ∧ lo + (i : Int) < n then img (lo + i) else nodata) := by
  unfold readWindow
  simp only [bounded_fixed_ok n lo hi hn, if_true, Option.some.injEq]
  apply List.map_congr_left
  intro i hi'
  rw [List.mem_range] at hi'
  rw [readPixel_boundedFixed]
  exact if_congr (by simp only [max_le_iff, lt_min_iff]; omega) rfl rfl

/-- the geo-referencing of the result is the window's: its pixel edge `i` is the image's pixel edge `lo + i` -/
theorem read_transform (P : Axis) (lo hi i : Int) :
    (windowAxis P lo hi).edge i = P.edge (lo + i) ∧ (windowAxis P lo hi).p = P.p ∧
      (windowAxis P lo hi).n = hi - lo := by
  unfold windowAxis Axis.edge
  simp only
  refine ⟨by rw [Int.add_mul]; omega, trivial, trivial⟩

/-- the window logic **as originally coded** fails for a window wholly outside the image (defect D3),
    kept as a checked witness -/
theorem read_total_coded_counterexample :
    (readWindowCoded 10 (fun x => x) 0 12 15).isNone = true ∧ (readWindowCoded 10 (fun x => x) 0 (-7) (-4)).isNone = true := by
  decide

/-! ### writes along one axis -/

/-- `writeTarget` answers with the window cropped to the dataset, and succeeds iff that is empty or inside the block (the
    three conditions of `slice_to_bounds` / `to_rio_dataset` on a non-empty window say no more than that) -/
theorem writeTarget_eq_some_iff (n b0 blen lo hi : Int) (w : Win1) :
    writeTarget n b0 blen lo hi = some w ↔
      (boundedFixed n lo hi).1 = w ∧ (w.hi ≤ w.lo ∨ b0 ≤ w.lo ∧ w.hi ≤ b0 + blen) := by
  unfold writeTarget Win1.len
  generalize (boundedFixed n lo hi).1 = u
  simp only [← ite_or, Option.ite_none_right_eq_some, Option.some.injEq]
  rw [and_comm]
  refine and_congr_right ?_
  rintro rfl
  omega

/-- **Write specification**: when the write succeeds the dataset holds the block's pixel at every position of the
    window cropped to the dataset, and is unchanged elsewhere. -/
theorem write_spec {α : Type} (n : Int) (ds : Int → α) (b0 blen : Int) (block : Int → α) (lo hi : Int)
    (ds' : Int → α) (h : writeWindow n ds b0 blen block lo hi = some ds') (x : Int) :
    ds' x = if max lo 0 ≤ x ∧ x < min hi n then block (x - b0) else ds x := by
  unfold writeWindow at h
  split at h
  · cases h
  · rename_i w hw
    cases h
    obtain ⟨rfl, -⟩ := (writeTarget_eq_some_iff n b0 blen lo hi w).mp hw
    simp only [mem_boundedFixed]

/-- a write succeeds whenever the block contains the window cropped to the dataset -/
theorem write_ok_of_contains {α : Type} (n : Int) (ds : Int → α) (b0 blen : Int) (block : Int → α) (lo hi : Int)
    (hn : 0 ≤ n) (h : b0 ≤ (boundedFixed n lo hi).1.lo ∧ (boundedFixed n lo hi).1.hi ≤ b0 + blen) :
    (writeWindow n ds b0 blen block lo hi).isSome = true := by
  unfold writeWindow
  rw [(writeTarget_eq_some_iff n b0 blen lo hi _).mpr ⟨rfl, Or.inr h⟩]
  rfl

/-- a block that contains the window is written through it wherever the window lies relative to the dataset -/
theorem writeTarget_of_block_contains (n b0 blen lo hi : Int) (h : b0 ≤ lo ∧ hi ≤ b0 + blen) :
    writeTarget n b0 blen lo hi = some (boundedFixed n lo hi).1 :=
  (writeTarget_eq_some_iff n b0 blen lo hi _).mpr ⟨rfl, (le_or_gt _ _).imp_right fun hne =>
    have hsub := boundedFixed_subset n lo hi hne
    ⟨le_trans h.1 hsub.1, le_trans hsub.2 h.2⟩⟩

/-- a successful write of a non-empty cropped window takes every pixel from inside the block -/
theorem write_within_block (n b0 blen lo hi : Int) (w : Win1) (h : writeTarget n b0 blen lo hi = some w)
    (hne : w.lo < w.hi) : b0 ≤ w.lo ∧ w.hi ≤ b0 + blen :=
  ((writeTarget_eq_some_iff n b0 blen lo hi w).mp h).2.resolve_left (not_le.mpr hne)

/-- **Write then read**: after a successful write, reading any window returns the block's pixels over the written
    range and what a read would have returned before elsewhere. -/
theorem write_read_roundtrip {α : Type} (n : Int) (ds : Int → α) (b0 blen : Int) (block : Int → α) (lo hi : Int)
    (ds' : Int → α) (h : writeWindow n ds b0 blen block lo hi = some ds') (nodata : α) (a b : Int) (hn : 0 ≤ n) :
    readWindow n ds' nodata a b =
      some ((List.range (b - a).toNat).map fun (i : Nat) =>
        if max lo 0 ≤ a + (i : Int) ∧ a + (i : Int) < min hi n then block (a + i - b0)
        else if 0 ≤ a + (i : Int) ∧ a + (i : Int) < n then ds (a + i) else nodata) := by
  rw [read_spec n a b ds' nodata hn]
  congr 1
  apply List.map_congr_left
  intro i _
  rw [write_spec n ds b0 blen block lo hi ds' h]
  by_cases hx : max lo 0 ≤ a + (i : Int) ∧ a + (i : Int) < min hi n
  · rw [if_pos hx, if_pos hx, if_pos ⟨le_trans (le_max_right lo 0) hx.1, lt_of_lt_of_le hx.2 (min_le_right hi n)⟩]
  · rw [if_neg hx, if_neg hx]

/-! ### writes in 2-D -/

/-- **2-D write specification**: a successful write stores the block's pixel at every position of the window cropped
    to the dataset and leaves every other pixel unchanged. -/
theorem write2_spec {α : Type} (nr nc : Int) (ds : Int → Int → α) (br0 brlen bc0 bclen : Int) (block : Int → Int → α)
    (rlo rhi clo chi : Int) (ds' : Int → Int → α)
    (h : writeWindow2 nr nc ds br0 brlen bc0 bclen block rlo rhi clo chi = some ds') (r c : Int) :
    ds' r c = if (max rlo 0 ≤ r ∧ r < min rhi nr) ∧ (max clo 0 ≤ c ∧ c < min chi nc) then block (r - br0) (c - bc0)
              else ds r c := by
  simp only [← mem_boundedFixed]
  unfold writeWindow2 at h
  split at h
  · rename_i he
    cases h
    unfold Win1.len at he
    rw [if_neg (by omega)]
  · split at h
    · rename_i wr wc hr hc
      cases h
      rw [((writeTarget_eq_some_iff _ _ _ _ _ wr).mp hr).1, ((writeTarget_eq_some_iff _ _ _ _ _ wc).mp hc).1]
    · cases h

/-- **A window that misses the dataset is a no-op, never an error** (the D13 repair): whatever block is offered -/
theorem write2_outside_noop {α : Type} (nr nc : Int) (ds : Int → Int → α) (br0 brlen bc0 bclen : Int)
    (block : Int → Int → α) (rlo rhi clo chi : Int) (hr : 0 ≤ nr) (hc : 0 ≤ nc)
    (h : rhi ≤ 0 ∨ nr ≤ rlo ∨ rhi ≤ rlo ∨ chi ≤ 0 ∨ nc ≤ clo ∨ chi ≤ clo) :
    writeWindow2 nr nc ds br0 brlen bc0 bclen block rlo rhi clo chi = some ds := by
  have h' : (rhi ≤ 0 ∨ nr ≤ rlo ∨ rhi ≤ rlo) ∨ (chi ≤ 0 ∨ nc ≤ clo ∨ chi ≤ clo) := by simpa only [or_assoc] using h
  exact if_pos (h'.imp (boundedFixed_empty nr rlo rhi) (boundedFixed_empty nc clo chi))

/-- the write as coded before the repair failed on such a window (witness: a block two pixels right of a 6 pixel
    dataset) -/
theorem write_outside_coded_counterexample : writeTargetCoded 6 8 3 8 11 = none ∧ (writeTarget 6 8 3 8 11).isSome := by
  decide

/-- **Every fuse write succeeds**: a block that contains the output window along both axes (which every block of
    `block_pairs` does - `fuse_write_contained_procRef` / `fuse_write_contained_procSrc` below) is written without
    error wherever the output window lies relative to the dataset: inside, across an edge, or wholly outside. -/
theorem write2_total_of_block_contains {α : Type} (nr nc : Int) (ds : Int → Int → α) (br0 brlen bc0 bclen : Int)
    (block : Int → Int → α) (rlo rhi clo chi : Int) (hnr : 0 ≤ nr) (hnc : 0 ≤ nc)
    (hr : br0 ≤ rlo ∧ rhi ≤ br0 + brlen) (hc : bc0 ≤ clo ∧ chi ≤ bc0 + bclen) :
    (writeWindow2 nr nc ds br0 brlen bc0 bclen block rlo rhi clo chi).isSome = true := by
  unfold writeWindow2
  split
  · rfl
  · rw [writeTarget_of_block_contains nr br0 brlen rlo rhi hr, writeTarget_of_block_contains nc bc0 bclen clo chi hc]
    rfl

/-- **Fuse writes never fail (reference-grid processing)**: the corrected block covers the expanded source input
    window, which always contains the rounded source output window (clipped to the image) it is written through. -/
theorem fuse_write_contained_procRef (P O : Axis) (A B s v : Int) (hv : 0 ≤ v) (hP : 0 < P.p) (hO : 0 < O.p)
    (k : Nat) :
    let b := block1 P O A B s v k
    b.oin.lo ≤ b.oout.lo ∧ b.oout.hi ≤ b.oin.hi :=
  roundTo_subset_expandTo P O hP hO _ _ (in_contains_out_plus_overlap_aux A B s v hv k)

/-- **Fuse writes never fail (source-grid processing)**: the block covers the source input window, which contains the
    source output window. -/
theorem fuse_write_contained_procSrc (A B s v : Int) (hv : 0 ≤ v) (k : Nat) :
    (procIn A B s v k).lo ≤ (procOut A B s v k).lo ∧ (procOut A B s v k).hi ≤ (procIn A B s v k).hi :=
  in_contains_out_plus_overlap_aux A B s v hv k

/-! non-vacuity -/
example : readWindow 4 (fun x => 10 + x) 0 (-2) 6 = some [0, 0, 10, 11, 12, 13, 0, 0] := by decide
example : readWindow 4 (fun x => 10 + x) 0 7 9 = some [0, 0] := by decide
example : (writeWindow2 4 6 (fun _ _ => (0 : Int)) 0 4 8 3 (fun i j => 100 + 10 * i + j) 0 4 8 11).isSome = true := by
  decide
example : (writeWindow2 4 6 (fun _ _ => (0 : Int)) 0 4 3 5 (fun i j => 100 + 10 * i + j) 0 4 3 8).map
    (fun f => (List.range 6).map fun (c : Nat) => f 1 c) = some [0, 0, 0, 110, 111, 112] := by decide
example : (writeWindow 6 (fun _ => (0 : Int)) 2 5 (fun i => 100 + i) 1 9).map (fun f => (List.range 6).map fun (i : Nat) => f i)
    = none := by decide
example : (writeWindow 6 (fun _ => (0 : Int)) (-1) 9 (fun i => 100 + i) 1 9).map (fun f => (List.range 6).map fun (i : Nat) => f i)
    = some [0, 102, 103, 104, 105, 106] := by decide

end Homonim
