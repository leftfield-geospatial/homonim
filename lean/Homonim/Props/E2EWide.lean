/-
  E2EWide — the whole-image fusion model with the 4 x 4 up-sampling kernels `cubic` and `cubic_spline` (homonim's default)
  (serves C05, C03, C02, C07).

  C05's third sentence - "with wider kernels (default cubic spline) differences are confined to source pixels within one
  processing-grid pixel of a block boundary" - is `block_transparent_wide`.
-/
import Homonim.Props.E2EMask
import Homonim.Lemmas.Wide
namespace Homonim

/-- **The kernels are what GDAL documents**: four weights that sum to one (a partition of unity), whatever the sub-pixel
    position `0 ≤ f < 1`; the B-spline weights are moreover non-negative. -/
theorem cubic_weights_sum_one (f : Rat) (h0 : 0 ≤ f) (h1 : f < 1) :
    cubicKernel (-1 - f) + cubicKernel (0 - f) + cubicKernel (1 - f) + cubicKernel (2 - f) = 1 :=
  cubicKernel_sum_one f h0 h1

theorem bspline_weights_sum_one (f : Rat) (h0 : 0 ≤ f) (h1 : f < 1) :
    bsplineKernel (-1 - f) + bsplineKernel (0 - f) + bsplineKernel (1 - f) + bsplineKernel (2 - f) = 1 :=
  bsplineKernel_sum_one f h0 h1

theorem bspline_weights_nonneg (x : Rat) : 0 ≤ bsplineKernel x := bsplineKernel_nonneg x

/-- **Validity does not depend on the kernel**: with either 4 x 4 kernel an up-sampled pixel is valid exactly when the
    source pixel that contains its centre is valid - the rule of nearest and bilinear. -/
theorem wide_valid_iff_nearest (m : Wide) (Sr Sc Dr Dc : Axis) (hSr : 0 < Sr.p) (hSc : 0 < Sc.p) (img : ImgO) (jr jc : Int) :
    (resampleWide m Sr Sc Dr Dc img jr jc).isSome = (nearest2 Sr Sc Dr Dc img jr jc).isSome :=
  resampleWide_isSome m Sr Sc Dr Dc hSr hSc img jr jc

/-- **Blocking is transparent away from the seams** (reference-grid processing, `cubic` or `cubic_spline` up-sampling, overlap
    ≥ kernel radius + 1): a source pixel of a block's output window gets from that block exactly the value and validity of the
    single-block run, provided the reference pixel that contains its centre is not the first row (column) of the block's
    processing output window - unless no block precedes - and not the last - unless no block follows.  In other words:
    differences between partitions are confined to source pixels whose centre lies in a reference pixel adjacent to an
    interior block boundary. -/
theorem block_transparent_wide (p : ImagePair) (hSr : 0 < p.Sr.p) (hSc : 0 < p.Sc.p) (hRr : 0 < p.Rr.p) (hRc : 0 < p.Rc.p)
    (model : Model) (kh kw : Nat) (n0 n1 : Rat) (ups : Wide)
    (sr sc vr vc : Int) (hvr : ((kh / 2 : Nat) : Int) + 1 ≤ vr) (hvc : ((kw / 2 : Nat) : Int) + 1 ≤ vc)
    (kr kc : Nat)
    (r c : Int) (hr : (p.blockRows sr vr kr).oout.lo ≤ r ∧ r < (p.blockRows sr vr kr).oout.hi)
    (hc : (p.blockCols sc vc kc).oout.lo ≤ c ∧ c < (p.blockCols sc vc kc).oout.hi)
    (hir : ((p.blockRows sr vr kr).pout.lo = (refWin p.Sr p.Rr).lo ∨ (p.blockRows sr vr kr).pout.lo + 1 ≤ nearestIdx p.Rr p.Sr r) ∧
           ((p.blockRows sr vr kr).pout.hi = (refWin p.Sr p.Rr).hi ∨ nearestIdx p.Rr p.Sr r + 2 ≤ (p.blockRows sr vr kr).pout.hi))
    (hic : ((p.blockCols sc vc kc).pout.lo = (refWin p.Sc p.Rc).lo ∨ (p.blockCols sc vc kc).pout.lo + 1 ≤ nearestIdx p.Rc p.Sc c) ∧
           ((p.blockCols sc vc kc).pout.hi = (refWin p.Sc p.Rc).hi ∨ nearestIdx p.Rc p.Sc c + 2 ≤ (p.blockCols sc vc kc).pout.hi)) :
    p.correctedWideByBlock model kh kw n0 n1 ups sr sc vr vc kr kc r c = p.correctedWide model kh kw n0 n1 ups r c :=
  block_transparent_wide_core p hSr hSc hRr hRc model kh kw n0 n1 ups _ _ _ _
    (p.blockRows_covers sr vr _ (by omega) hvr kr) (p.blockCols_covers sc vc _ (by omega) hvc kc) r c hr hc hir hic

/-- **At a seam the kernel does matter** (the hypothesis of `block_transparent_wide` is needed): a concrete pair, kernel and
    partition for which the block's value differs from the single-block value at a pixel next to an interior boundary. -/
theorem block_transparent_wide_seam_counterexample :
    wideSeamPair.correctedWideByBlock .gain 3 3 0 0 .cubicSpline 4 8 2 2 0 0 wideSeamRow 2
      ≠ wideSeamPair.correctedWide .gain 3 3 0 0 .cubicSpline wideSeamRow 2 := by
  decide +kernel

/-- **The mask of every block is the mask of the whole image, everywhere** (also at the seams): validity is the nearest
    parameter pixel's, which `block_transparent` covers. -/
theorem block_mask_eq_whole_wide (p : ImagePair) (hSr : 0 < p.Sr.p) (hSc : 0 < p.Sc.p) (hRr : 0 < p.Rr.p) (hRc : 0 < p.Rc.p)
    (model : Model) (kh kw : Nat) (n0 n1 : Rat) (ups : Wide)
    (sr sc vr vc : Int) (hvr : ((kh / 2 : Nat) : Int) + 1 ≤ vr) (hvc : ((kw / 2 : Nat) : Int) + 1 ≤ vc) (kr kc : Nat)
    (r c : Int) (hr : (p.blockRows sr vr kr).oout.lo ≤ r ∧ r < (p.blockRows sr vr kr).oout.hi)
    (hc : (p.blockCols sc vc kc).oout.lo ≤ c ∧ c < (p.blockCols sc vc kc).oout.hi) :
    (p.correctedWideByBlock model kh kw n0 n1 ups sr sc vr vc kr kc r c).isSome
      = (p.correctedWide model kh kw n0 n1 ups r c).isSome := by
  have h := block_mask_eq_whole p hSr hSc hRr hRc model kh kw n0 n1 .nearest (by decide) sr sc vr vc hvr hvc kr kc r c hr hc
  rw [correctedWide_isSome_eq_nearest p hRr hRc, ← h]
  exact correctedWide_isSome_eq_nearest (p.restrict _ _ _ _) hRr hRc model kh kw n0 n1 ups r c

/-- **Same mask as nearest-neighbour up-sampling**: the corrected image has the same valid pixels whichever of the 4 x 4
    kernels, or nearest, brings the parameters to the source grid - so the mask-fidelity theorems `whole_image_no_invented_pixels`
    and `whole_image_no_lost_pixels` hold verbatim for the default configuration. -/
theorem wide_mask_eq_nearest (p : ImagePair) (hRr : 0 < p.Rr.p) (hRc : 0 < p.Rc.p)
    (model : Model) (kh kw : Nat) (n0 n1 : Rat) (ups : Wide) (r c : Int) :
    (p.correctedWide model kh kw n0 n1 ups r c).isSome = (p.corrected model kh kw n0 n1 .nearest r c).isSome :=
  correctedWide_isSome_eq_nearest p hRr hRc model kh kw n0 n1 ups r c

/-- **No lost pixels with the default kernel** (corollary; gain model, positive source). -/
theorem whole_image_no_lost_pixels_wide (p : ImagePair) (hSr : 0 < p.Sr.p) (hSc : 0 < p.Sc.p) (hRr : 0 < p.Rr.p) (hRc : 0 < p.Rc.p)
    (kh kw : Nat) (hkh : 0 < kh) (hkw : 0 < kw) (n0 n1 : Rat) (ups : Wide)
    (hposS : ∀ r c x, p.src r c = some x → 0 < x)
    (r c : Int) (hr : 0 ≤ r ∧ r < p.Sr.n) (hc : 0 ≤ c ∧ c < p.Sc.n) (x : Rat) (hx : p.src r c = some x)
    (hi : 0 ≤ nearestIdx p.Rr p.Sr r ∧ nearestIdx p.Rr p.Sr r < p.Rr.n)
    (hj : 0 ≤ nearestIdx p.Rc p.Sc c ∧ nearestIdx p.Rc p.Sc c < p.Rc.n)
    (href : (p.ref (nearestIdx p.Rr p.Sr r) (nearestIdx p.Rc p.Sc c)).isSome = true) :
    (p.correctedWide .gain kh kw n0 n1 ups r c).isSome = true := by
  rw [wide_mask_eq_nearest p hRr hRc]
  exact whole_image_no_lost_pixels p hSr hSc hRr hRc kh kw hkh hkw n0 n1 .nearest (by decide) hposS r c hr hc x hx hi hj href

/-- **Line recovery with the default kernel**: if `ref = a·srcDs (+ b)` wherever both exist, every valid corrected pixel equals
    `a·src (+ b)` at its own location - the weights are a partition of unity (cubic) resp. are renormalised (cubic spline,
    bilinear fall-back), so constant parameters stay constant. -/
theorem whole_image_gain_recovers_wide (p : ImagePair) (hRr : 0 < p.Rr.p) (hRc : 0 < p.Rc.p)
    (a : Rat) (kh kw : Nat) (n0 n1 : Rat) (ups : Wide)
    (hline : ∀ i j x y, p.srcDs i j = some x → p.ref i j = some y → y = a * x)
    (r c : Int) (x v : Rat) (hx : p.src r c = some x) (hv : p.correctedWide .gain kh kw n0 n1 ups r c = some v) :
    v = a * x := by
  rw [correctedWith_of_const_params p _ .gain kh kw n0 n1 r c (resampleWide_const ups _ _ _ _ hRr hRc · · · r c) a 0
    (imgParams_gain_line _ _ _ _ a hline kh kw n0 n1) x v hx hv, add_zero]

theorem whole_image_gain_offset_recovers_wide (p : ImagePair) (hRr : 0 < p.Rr.p) (hRc : 0 < p.Rc.p)
    (a b : Rat) (kh kw : Nat) (n0 n1 : Rat) (ups : Wide)
    (hline : ∀ i j x y, p.srcDs i j = some x → p.ref i j = some y → y = a * x + b)
    (r c : Int) (x v : Rat) (hx : p.src r c = some x) (hv : p.correctedWide .gainOffset kh kw n0 n1 ups r c = some v) :
    v = a * x + b :=
  correctedWith_of_const_params p _ .gainOffset kh kw n0 n1 r c (resampleWide_const ups _ _ _ _ hRr hRc · · · r c) a b
    (imgParams_gainOffset_line _ _ _ _ a b hline kh kw n0 n1) x v hx hv

/-- **Scale law with the default kernel** (C07): scaling the source by `s > 0` and the reference by `t > 0` multiplies every
    corrected pixel by `t` and preserves validity. -/
theorem whole_image_scale_wide (p : ImagePair) (s t : Rat) (hs : 0 < s) (ht : 0 < t) (model : Model) (hm : model ≠ .gainBlkOffset)
    (kh kw : Nat) (n0 n1 : Rat) (ups : Wide) (r c : Int) :
    ({ p with src := p.src.scale s, ref := p.ref.scale t } : ImagePair).correctedWide model kh kw n0 n1 ups r c
      = (p.correctedWide model kh kw n0 n1 ups r c).map (t * ·) :=
  correctedWith_scale p _ r c (resampleWide_scale ups _ _ _ _ · · r c) s t hs ht model hm kh kw n0 n1

/-! non-vacuity: a 2 x 2 source (value 3) under one reference pixel (value 6): the 4 x 4 support is never complete, cubic falls
    back to bilinear, cubic spline renormalises - both give the gain 2 -/
example :
    let p : ImagePair :=
      { Sr := ⟨0, 1, 2⟩, Sc := ⟨0, 1, 2⟩, Rr := ⟨0, 2, 1⟩, Rc := ⟨0, 2, 1⟩
        src := fun r c => if 0 ≤ r ∧ r < 2 ∧ 0 ≤ c ∧ c < 2 then some 3 else none
        ref := fun i j => if i = 0 ∧ j = 0 then some 6 else none }
    p.correctedWide .gain 1 1 0 0 .cubic 1 1 = some 6 ∧ p.correctedWide .gain 1 1 0 0 .cubicSpline 0 1 = some 6 ∧
      p.correctedWide .gain 1 1 0 0 .cubicSpline 2 1 = none := by decide +kernel

end Homonim
