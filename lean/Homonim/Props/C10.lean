/-
  C10 — No clobbering, no touching inputs, no dependence on what was there before.
-/
import Homonim.Lemmas.Assoc
import Homonim.Model.FS

namespace Homonim

theorem get_put_same (fs : FS) (p : String) (c : Nat) : (fs.put p c).get p = some c :=
  congrArg (Option.map Prod.snd) (find?_put_same fs p c)

theorem get_put_other (fs : FS) (p q : String) (c : Nat) (h : q ≠ p) : (fs.put p c).get q = fs.get q :=
  congrArg (Option.map Prod.snd) (find?_put_other fs p q c h)

theorem get_putParam_other {fs : FS} {c : Nat} {po : Option String} {q : String} (h : ∀ p, po = some p → q ≠ p) :
    (fs.putParam c po).get q = fs.get q := by
  cases po with
  | none => rfl
  | some p => exact get_put_other fs p q c (h p rfl)

/-- a call is refused exactly when `overwrite` is off and one of its outputs exists; refused, it leaves the file system as it
    was, otherwise both outputs are opened for writing -/
theorem processCall_eq (fs : FS) (c : Call) :
    processCall fs c =
      if c.overwrite = false ∧ (fs.exists' c.corr = true ∨ fs.paramExists c.param = true) then (fs, .fileExists)
      else ((fs.put c.corr c.corrContent).putParam c.paramContent c.param, .ok) := by
  unfold processCall
  cases c.overwrite <;> cases fs.exists' c.corr <;> cases fs.paramExists c.param <;> rfl

theorem processCall_cases (fs : FS) (c : Call) :
    processCall fs c = (fs, .fileExists) ∨
      processCall fs c = ((fs.put c.corr c.corrContent).putParam c.paramContent c.param, .ok) := by
  rw [processCall_eq]
  split
  · exact .inl rfl
  · exact .inr rfl

/-- **No clobbering**: without `overwrite`, if the corrected file or the parameter file exists the call fails with
    FileExistsError and the file system is exactly as before - nothing created, nothing truncated. -/
theorem no_overwrite_no_change (fs : FS) (c : Call) (hov : c.overwrite = false)
    (hex : fs.exists' c.corr = true ∨ ∃ p, c.param = some p ∧ fs.exists' p = true) :
    processCall fs c = (fs, .fileExists) := by
  rw [processCall_eq]
  exact if_pos ⟨hov, hex.imp_right fun ⟨p, hp, h⟩ => by rw [hp]; exact h⟩

/-- **Inputs (and every other file) are untouched**: a path that is not one of the two requested outputs has the same
    content after the call, whatever the outcome -/
theorem inputs_untouched (fs : FS) (c : Call) (q : String) (hq : q ≠ c.corr) (hqp : ∀ p, c.param = some p → q ≠ p) :
    (processCall fs c).1.get q = fs.get q := by
  rcases processCall_cases fs c with h | h <;> rw [h]
  exact (get_putParam_other hqp).trans (get_put_other fs c.corr q _ hq)

/-- **No files other than the requested outputs appear** -/
theorem only_requested_outputs (fs : FS) (c : Call) (q : String) (hnew : (processCall fs c).1.exists' q = true)
    (hold : fs.exists' q = false) : q = c.corr ∨ c.param = some q := by
  by_cases h1 : q = c.corr
  · exact .inl h1
  by_cases h2 : c.param = some q
  · exact .inr h2
  unfold FS.exists' at hnew hold
  rw [inputs_untouched fs c q h1 (fun p hp e => h2 (e ▸ hp)), hold] at hnew
  cases hnew

/-- **A successful call leaves exactly this configuration's content in the outputs** (whatever was there) -/
theorem overwrite_replaces (fs : FS) (c : Call) (hok : (processCall fs c).2 = .ok)
    (hdist : ∀ p, c.param = some p → p ≠ c.corr) :
    (processCall fs c).1.get c.corr = some c.corrContent ∧
      ∀ p, c.param = some p → (processCall fs c).1.get p = some c.paramContent := by
  rcases processCall_cases fs c with h | h <;> rw [h] at hok ⊢
  · cases hok
  · refine ⟨?_, fun p hp => ?_⟩
    · rw [get_putParam_other fun p hp => (hdist p hp).symm]
      exact get_put_same fs _ _
    · rw [hp]
      exact get_put_same _ p _

/-- **History independence**: after any history, a successful call leaves in its outputs what the same call leaves on an
    empty directory - the result never depends on earlier runs with the same object or path. -/
theorem history_independent (fs : FS) (hist : List Call) (c : Call)
    (hok : (processCall (runHistory fs hist).1 c).2 = .ok) (hdist : ∀ p, c.param = some p → p ≠ c.corr) :
    (processCall (runHistory fs hist).1 c).1.get c.corr = (processCall [] c).1.get c.corr ∧
      ∀ p, c.param = some p → (processCall (runHistory fs hist).1 c).1.get p = (processCall [] c).1.get p := by
  -- on an empty directory nothing exists, so the call succeeds; both sides are then what `overwrite_replaces` says
  have hfresh : (processCall [] c).2 = .ok := by
    have hp : FS.paramExists [] c.param = false := by cases c.param <;> rfl
    rw [processCall_eq, hp, if_neg]
    rintro ⟨-, h | h⟩ <;> cases h
  obtain ⟨a1, a2⟩ := overwrite_replaces _ c hok hdist
  obtain ⟨b1, b2⟩ := overwrite_replaces [] c hfresh hdist
  exact ⟨a1.trans b1.symm, fun p hp => (a2 p hp).trans (b2 p hp).symm⟩

/-- other files survive every history: a path never named as an output keeps its content -/
theorem history_untouched (fs : FS) (hist : List Call) (q : String)
    (hq : ∀ c ∈ hist, q ≠ c.corr ∧ ∀ p, c.param = some p → q ≠ p) : (runHistory fs hist).1.get q = fs.get q := by
  induction hist generalizing fs with
  | nil => rfl
  | cons c cs ih =>
    have hc := hq c List.mem_cons_self
    exact (ih _ fun c' hc' => hq c' (List.mem_cons_of_mem _ hc')).trans (inputs_untouched fs c q hc.1 hc.2)

/-! non-vacuity -/
example : runHistory [("src.tif", 1), ("out.tif", 9)]
    [⟨"out.tif", some "out_PARAM.tif", false, 5, 6⟩, ⟨"out.tif", some "out_PARAM.tif", true, 5, 6⟩] =
    ([("out_PARAM.tif", 6), ("out.tif", 5), ("src.tif", 1)], [.fileExists, .ok]) := by decide +kernel

/-- **Witness (finding D44)**: the refusal is atomic per `process()` call (`no_overwrite_no_change`), not per command line - the
    `fuse` command calls `process()` once per source, so an invocation over two sources of which the *second* one's output exists
    creates the first one's outputs and only then fails: the file system after the refused invocation is not the one before it. -/
theorem multi_source_invocation_not_atomic :
    let fs : FS := [("b_FUSE.tif", 7)]
    let calls : List Call := [⟨"a_FUSE.tif", none, false, 1, 0⟩, ⟨"b_FUSE.tif", none, false, 2, 0⟩]
    (runHistory fs calls).2 = [.ok, .fileExists] ∧ (runHistory fs calls).1 ≠ fs ∧ (runHistory fs calls).1.get "b_FUSE.tif" = some 7 := by
  decide +kernel

end Homonim
