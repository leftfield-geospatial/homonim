/-
  Homonim.Props.SrcTieGeom — the tie between the hand-written model and the *source text* of the package: windows, blocks,
  conversion and orientation (raster_pair.py, raster_array.py, utils.py).

  `Homonim/GeneratedCode.lean` is regenerated on every run by the translator `harness/py2lean.py` from the Python AST of
  the arithmetic statements of kernel_model.py, compare.py, stats.py, raster_pair.py, utils.py and fuse.py.  Each theorem
  below says that a definition of the hand-written model (about which the property theorems are proved) is the
  expression the code evaluates.  A change to one of those statements changes the generated definition, and the
  corresponding theorem no longer checks.  Theorem names carry the property they serve: `src_Cxx_…`.
-/
import Homonim.GeneratedCode
import Homonim.Model.Kernel
import Homonim.Model.Blocks
import Homonim.Model.Layout
import Homonim.Model.WindowIO
import Homonim.Model.Mask
import Homonim.Model.Convert
import Homonim.Model.Orient
import Homonim.Lemmas.Geom
import Homonim.Props.C16
import Mathlib.Data.Rat.Floor
import Mathlib.Tactic.Ring
namespace Homonim
open Homonim.Src

/-! ### raster_pair.py, utils.py (C05, C06), fuse.py (C14) -/

/-- `block_pairs`: the number of block corners of `range(start, stop, step)` and the `k`-th corner, rows and columns -/
theorem src_C06_block_corners (A L s v : Int) (k : Nat) :
    nBlocks A (A + L) s = (cdiv (blocks_rangeRowStop A L s v - blocks_rangeRowStart A L s v) (blocks_rangeRowStep A L s v)).toNat ∧
    nBlocks A (A + L) s = (cdiv (blocks_rangeColStop A L s v - blocks_rangeColStart A L s v) (blocks_rangeColStep A L s v)).toNat ∧
    blockUl A s v k = blocks_rangeRowStart A L s v + k * blocks_rangeRowStep A L s v ∧
    blockUl A s v k = blocks_rangeColStart A L s v + k * blocks_rangeColStep A L s v := by
  unfold nBlocks blockUl blocks_rangeRowStop blocks_rangeRowStart blocks_rangeRowStep blocks_rangeColStop
    blocks_rangeColStart blocks_rangeColStep
  refine ⟨?_, ?_, rfl, rfl⟩ <;> congr 2 <;> omega

/-- `block_pairs`: input and output windows of the block with corner `ul` -/
theorem src_C06_block_windows (A B s v : Int) (k : Nat) :
    procIn A B s v k = ⟨blocks_inUl (blockUl A s v k) s v A B, blocks_inBr (blockUl A s v k) s v A B⟩ ∧
    procOut A B s v k = ⟨blocks_outUl (blockUl A s v k) s v A B, blocks_outBr (blockUl A s v k) s v A B⟩ := by
  unfold procIn procOut blocks_inUl blocks_inBr blocks_outUl blocks_outBr
  exact ⟨rfl, rfl⟩

/-- floor and ceiling of a quotient of integers are the model's floor and ceiling division -/
theorem floor_intCast_div (a d : Int) (hd : 0 < d) : ((a : ℚ) / d).floor = a / d := by
  lift d to ℕ using hd.le
  exact Rat.floor_intCast_div_natCast a d

theorem ceil_intCast_div (a d : Int) (hd : 0 < d) : ((a : ℚ) / d).ceil = cdiv a d := by
  rw [Rat.ceil_eq_neg_floor_neg, ← neg_div, ← Int.cast_neg, floor_intCast_div _ _ hd, cdiv]

/-- `expand_window_to_grid` (divmod, then ceil of size + fraction): the expanded window of a float window with offset `x`,
    size `w`, expanded by `e` pixels, is `[⌊x - e⌋, ⌈x + w + e⌉)` -/
theorem src_C06_expand_spec (x w e : Rat) :
    expandWindow_off x w e = (x - e).floor ∧ expandWindow_off x w e + expandWindow_size x w e = (x + w + e).ceil := by
  unfold expandWindow_off expandWindow_size
  refine ⟨rfl, ?_⟩
  have h : w + 2 * e + (x - e - ((x - e).floor : ℚ)) = x + w + e + ((-(x - e).floor : ℤ) : ℚ) := by
    push_cast; ring
  rw [h, Rat.ceil_add_intCast]
  omega

/-- the model's `expandTo` (integer floor / ceiling division) is the code's `expand_window_to_grid` applied to the exact
    rational window `other.window(proc.window_bounds(w))` -/
theorem src_C06_expand_window (P O : Axis) (w : Win1) (hO : 0 < O.p) :
    let x : ℚ := (toOther P O w.lo : ℚ) / O.p
    let W : ℚ := ((w.hi - w.lo) * P.p : ℤ) / O.p
    expandTo P O w = ⟨expandWindow_off x W 0, expandWindow_off x W 0 + expandWindow_size x W 0⟩ := by
  intro x W
  obtain ⟨h1, h2⟩ := src_C06_expand_spec x W 0
  have hxw : x + W + 0 = (toOther P O w.hi : ℚ) / O.p := by
    simp only [x, W, add_zero]
    rw [← add_div]
    congr 1
    unfold toOther Axis.edge
    push_cast
    ring
  rw [h2, h1, sub_zero, hxw, floor_intCast_div _ _ hO, ceil_intCast_div _ _ hO]
  rfl

/-- `round_bounds_to_grid`: with the two corners rounded independently, the window `[r0, r0 + max(r1 - r0, 0))` the code
    builds is the model's `[rhe lo, rhe hi)` (rounding is monotone, so the `max` never bites) -/
theorem src_C06_round_bounds (P O : Axis) (w : Win1) (hO : 0 < O.p) (hP : 0 < P.p) (hw : w.lo ≤ w.hi) :
    (roundTo P O w).lo + roundBounds_size (roundTo P O w).lo (roundTo P O w).hi = (roundTo P O w).hi := by
  unfold roundBounds_size roundTo
  simp only
  have := rhe_mono _ _ O.p hO (toOther_mono P O hP.le hw)
  omega

/-- `covers_bounds` along one axis, with zero tolerance and the exact rational window of the source in the reference,
    is the model's repaired predicate -/
theorem src_C16_covers (R S : Axis) (hp : 0 < R.p) :
    covers_axis (((S.o - R.o : ℤ) : ℚ) / R.p) (((S.n * S.p : ℤ) : ℚ) / R.p) R.n 0 = coversFixed R S := by
  have hpq : (0 : ℚ) < R.p := Int.cast_pos.mpr hp
  rw [Bool.eq_iff_iff, covers_iff_contains]
  simp only [covers_axis, neg_zero, add_zero, Bool.not_eq_true', Bool.or_eq_false_iff, decide_eq_false_iff_not, not_lt]
  rw [le_div_iff₀ hpq, zero_mul, ← add_div, div_le_iff₀ hpq]
  norm_cast
  unfold footprintInside Axis.edge
  omega

/-- `_resolve_proc_crs` -/
theorem src_C18_resolve (sa ra : Int) :
    resolveProcCrs sa ra .auto = (if resolveAutoIsRef sa ra then .ref else .src) ∧
    resolveProcCrs sa ra .src = .src ∧ resolveProcCrs sa ra .ref = .ref := by
  unfold resolveProcCrs resolveAutoIsRef
  refine ⟨?_, rfl, rfl⟩
  simp only [decide_eq_true_eq]

/-- `overlap_for_kernel` = ceil(k / 2) -/
theorem src_C05_overlap (k : Nat) : (overlapForKernel k : Int) = Src.overlapForKernel k := by
  unfold Homonim.overlapForKernel Src.overlapForKernel
  omega

/-- `_process_block`: band indexes of the parameter image -/
theorem src_C14_param_index (n i k : Nat) : paramIndex n i k = Src.paramIndex n i k := rfl


/-! ### raster_array.py (C20), kernel_model.py `_full_coverage_mask` (C17) -/

/-- `bounded_window_slices` (np.clip / np.fmax on the corners) is the model's `boundedFixed`: dataset window and array slice -/
theorem src_C20_bounded (n lo hi : Int) :
    boundedFixed n lo hi = (⟨bounded_ul n lo hi, bounded_br n lo hi⟩, ⟨bounded_start n lo hi, bounded_stop n lo hi⟩) := by
  unfold boundedFixed bounded_ul bounded_br bounded_start bounded_stop
  rfl

/-- `_full_coverage_mask`: the erosion element is the kernel grown by two (`erodeAt` ranges over `k + 2` positions per axis) -/
theorem src_C17_erode_size (kh kw h w : Nat) (m : Nat → Nat → Bool) (r c : Nat) :
    erodeAt kh kw h w m r c =
      ((List.range (cover_erodeSize kh)).all fun (di : Nat) => (List.range (cover_erodeSize kw)).all fun (dj : Nat) =>
        let i : Int := (r : Int) - ((cover_erodeSize kh) / 2 : Nat) + di
        let j : Int := (c : Int) - ((cover_erodeSize kw) / 2 : Nat) + dj
        decide (0 ≤ i) && decide (i < h) && decide (0 ≤ j) && decide (j < w) && m i.toNat j.toNat) := rfl


/-! ### raster_array.py conversions, writes and reads (C13, C20, C08) -/

/-- `_convert_array_dtype` skips the clip exactly when it cannot matter: if the source type's range does not exceed the
    target's at either end (the negation of the condition the source states), every value of the source type already lies in
    the target's range.  (With `and` in place of `or` this is false: one-sided excess would go unclipped.) -/
theorem src_C13_clip_skipped_soundly (smin smax dmin dmax : Int) (h : convert_clipNeeded smin smax dmin dmax = false)
    (x : Int) (hx : smin ≤ x ∧ x ≤ smax) : dmin ≤ x ∧ x ≤ dmax := by
  unfold convert_clipNeeded at h
  simp only [Bool.or_eq_false_iff, decide_eq_false_iff_not, not_lt] at h
  omega

/-- `to_rio_dataset`: the write steps the model reads are the ones the source states, in its order - in particular the mask
    written is that of the block cropped to the window -/
theorem src_C20_write_steps : writeStepsModel = writeSteps := rfl

/-- `from_rio_dataset`: the internal nodata value is used exactly for masked datasets and datasets without a nodata value -/
theorem src_C08_read_nodata (isMasked : Bool) (dsNodata : Option Int) :
    (readNodata isMasked dsNodata).isNone = read_usesInternalNodata isMasked dsNodata.isSome := by
  unfold readNodata read_usesInternalNodata
  cases isMasked <;> cases dsNodata <;> rfl

/-! ### utils.py orientation (C16, C06, C18) -/

/-- `north_up`: the model's test is the one the source states (exact zero tests on the rotation terms, sign tests on the pixel
    sizes) -/
theorem src_C16_north_up (a b d e : Rat) : northUpOf a b d e = orient_northUp a b d e := rfl

/-- what `north_up` means: positive x pixel size, negative y pixel size, and *no* rotation or shear at all -/
theorem src_C16_north_up_iff (a b d e : Rat) : orient_northUp a b d e = true ↔ 0 < a ∧ e < 0 ∧ b = 0 ∧ d = 0 := by
  simp only [orient_northUp, Bool.and_eq_true, decide_eq_true_eq, and_assoc]

/-- `same_orientation_crs`: the model's four re-projection decisions are the four conditions the source states, in its order -/
theorem src_C16_same_orientation (src ref : ImState) (procIsSrc : Bool) :
    sameOrientationCrs src ref procIsSrc =
      (let sameCrs := src.crs == ref.crs
       let s1 := if orient_flipSrc src.northUp sameCrs procIsSrc then warp src src.crs else src
       let r1 := if orient_flipRef ref.northUp sameCrs procIsSrc then warp ref ref.crs else ref
       (if orient_srcToRefCrs sameCrs procIsSrc then warp s1 ref.crs else s1,
        if orient_refToSrcCrs sameCrs procIsSrc then warp r1 src.crs else r1)) := rfl

/-- after `same_orientation_crs` both images are north-up and in one CRS, whatever they were and whichever grid is processed -/
theorem src_C16_same_orientation_result (src ref : ImState) (procIsSrc : Bool) :
    (sameOrientationCrs src ref procIsSrc).1.northUp = true ∧ (sameOrientationCrs src ref procIsSrc).2.northUp = true ∧
      (sameOrientationCrs src ref procIsSrc).1.crs = (sameOrientationCrs src ref procIsSrc).2.crs :=
  sameOrientationCrs_result src ref procIsSrc

/-! ### nodata comparison (C08, C20, C07) -/

/-- `nan_equals`: the model's nodata comparison is the source's - exact (IEEE) equality, or both NaN; no tolerance -/
theorem src_C08_nan_equals (x y : FVal) : x.nanEq y = mask_nanEquals (x.ieeeEq y) x.isNan y.isNan := by
  cases x <;> cases y <;> simp [FVal.nanEq, FVal.ieeeEq, FVal.isNan, mask_nanEquals]

/-- `RasterArray.mask`: a stored value is a valid pixel iff it does not compare equal to the nodata value - so a finite value
    different from a finite nodata value is valid however close the two are -/
theorem src_C08_mask_valid (q nd : Rat) (h : q ≠ nd) :
    mask_pixelValid true ((FVal.fin q).ieeeEq (.fin nd)) (FVal.fin q).isNan (FVal.fin nd).isNan = true := by
  simp [mask_pixelValid, mask_nanEquals, FVal.ieeeEq, FVal.isNan, h]

theorem src_C08_mask_no_nodata (e a b : Bool) : mask_pixelValid false e a b = true := rfl

end Homonim
