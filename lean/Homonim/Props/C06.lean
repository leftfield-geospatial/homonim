/-
  C06 — Output blocks tile the source exactly; paired windows cover the same ground.

  Every statement is for all origins, pixel sizes, image sizes, block lengths and overlaps; 2-D statements are products
  of the two independent axes.  The partitions are all `tile_existsUnique` (Lemmas/Geom) for a boundary sequence:
  `procBoundary` on the processing grid, its rounded image `otherBoundary` on the other grid.
-/
import Homonim.Lemmas.Geom
import Mathlib.Tactic.Ring
import Mathlib.Tactic.Linarith

namespace Homonim

/-- the processing-grid output window of block `k` is `[A + k*s, min (A + (k+1)*s) B)` -/
theorem procOut_eq (A B s v : Int) (hs : 0 ≤ s) (hv : 0 ≤ v) (k : Nat) :
    procOut A B s v k = ⟨A + k * s, min (A + (k + 1) * s) B⟩ := by
  have hk : (0 : Int) ≤ k * s := Int.mul_nonneg (Int.natCast_nonneg k) hs
  have e1 : blockUl A s v k + v = A + k * s := by unfold blockUl; omega
  have e2 : blockUl A s v k + s + 2 * v - v = A + (k + 1) * s := by
    unfold blockUl; rw [Int.add_mul, Int.one_mul]; omega
  rw [procOut, e1, e2, max_eq_left (Int.le_add_of_nonneg_right hk)]

/-- the boundary sequence of the processing output windows: the block corners `A + k*s`, cut off at `B` -/
def procBoundary (A B s : Int) (k : Nat) : Int := min (A + k * s) B

theorem procBoundary_mono (A B s : Int) (hs : 0 ≤ s) (k : Nat) : procBoundary A B s k ≤ procBoundary A B s (k + 1) := by
  unfold procBoundary
  rw [Int.natCast_succ, Int.add_mul, Int.one_mul]
  exact min_le_min_right B (by omega)

theorem procBoundary_zero (A B s : Int) (h : A ≤ B) : procBoundary A B s 0 = A := by
  rw [procBoundary, Int.natCast_zero, Int.zero_mul, Int.add_zero, min_eq_left h]

theorem procBoundary_nBlocks (A B s : Int) (hs : 0 < s) : procBoundary A B s (nBlocks A B s) = B :=
  min_eq_right (Int.not_lt.mp (mt (lt_nBlocks_iff A B s hs _).mpr (Nat.lt_irrefl _)))

/-- the output window of an existing block lies between consecutive boundaries -/
theorem procOut_eq_boundaries (A B s v : Int) (hs : 0 < s) (hv : 0 ≤ v) (k : Nat) (hk : k < nBlocks A B s) :
    procOut A B s v k = ⟨procBoundary A B s k, procBoundary A B s (k + 1)⟩ := by
  rw [procOut_eq A B s v hs.le hv, procBoundary, procBoundary, min_eq_left ((lt_nBlocks_iff A B s hs k).mp hk).le,
    Int.natCast_succ]

/-- **Processing-grid partition**: every pixel of the processing window lies in the output window of exactly
    one block (no gap, no double cover), for every block length `s > 0` and overlap `v ≥ 0`. -/
theorem out_blocks_partition_proc (A B s v : Int) (hs : 0 < s) (hv : 0 ≤ v) (x : Int) (hx : A ≤ x ∧ x < B) :
    ∃! k : Nat, k < nBlocks A B s ∧ (procOut A B s v k).mem x := by
  refine tile_existsUnique (procBoundary A B s) (procBoundary_mono A B s hs.le) _ _
    (procOut_eq_boundaries A B s v hs hv) x ?_
  rw [procBoundary_zero A B s (by omega), procBoundary_nBlocks A B s hs]
  exact hx

/-- **Input windows**: the input window is the output window grown by the overlap on both sides, clipped to the
    processing window. -/
theorem in_contains_out_plus_overlap (A B s v : Int) (hv : 0 ≤ v) (k : Nat) :
    procIn A B s v k = ⟨max ((procOut A B s v k).lo - v) A, min ((procOut A B s v k).hi + v) B⟩ :=
  in_contains_out_plus_overlap_eq A B s v hv k

/-- consecutive processing output windows are exactly adjacent -/
theorem procOut_adjacent (A B s v : Int) (hs : 0 < s) (hv : 0 ≤ v) (k : Nat) (hk : k + 1 < nBlocks A B s) :
    (procOut A B s v k).hi = (procOut A B s v (k + 1)).lo := by
  rw [procOut_eq_boundaries A B s v hs hv k (by omega), procOut_eq_boundaries A B s v hs hv (k + 1) hk]

/-- the rounded boundary sequence of the other grid: boundary `k` is the rounded image of the processing boundary
    `min (A + k*s) B` - one function of one integer, shared by both neighbours. -/
def otherBoundary (P O : Axis) (A B s : Int) (k : Nat) : Int :=
  rhe (toOther P O (min (A + k * s) B)) O.p

theorem otherBoundary_eq (P O : Axis) (A B s : Int) (k : Nat) :
    otherBoundary P O A B s k = rhe (toOther P O (procBoundary A B s k)) O.p := rfl

theorem otherBoundary_mono (P O : Axis) (A B s : Int) (hs : 0 ≤ s) (hP : 0 < P.p) (hO : 0 < O.p) (k : Nat) :
    otherBoundary P O A B s k ≤ otherBoundary P O A B s (k + 1) :=
  rhe_mono _ _ _ hO (toOther_mono P O hP.le (procBoundary_mono A B s hs k))

/-- the other-grid output window of block `k` is `[boundary k, boundary (k+1))` whenever the block is non-empty -/
theorem oout_eq_boundaries (P O : Axis) (A B s v : Int) (hs : 0 < s) (hv : 0 ≤ v) (k : Nat)
    (hk : k < nBlocks A B s) :
    (block1 P O A B s v k).oout = ⟨otherBoundary P O A B s k, otherBoundary P O A B s (k + 1)⟩ := by
  show roundTo P O (procOut A B s v k) = _
  rw [procOut_eq_boundaries A B s v hs hv k hk]
  rfl

/-- **Same ground, output windows**: every boundary of the other image's output windows lies within half a pixel (of the other
    grid) of the processing boundary it was rounded from, on the ground - on either axis, whatever the pixel sizes (the predicate
    the check evaluates on the real windows; a boundary computed with the wrong axis' pixel size violates it) -/
theorem other_boundary_within_half_pixel (P O : Axis) (A B s : Int) (hO : 0 < O.p) (k : Nat) :
    2 * (O.edge (otherBoundary P O A B s k) - P.edge (min (A + k * s) B)) ≤ O.p ∧
      -O.p ≤ 2 * (O.edge (otherBoundary P O A B s k) - P.edge (min (A + k * s) B)) := by
  have := rhe_within_half (toOther P O (min (A + k * s) B)) O.p hO
  unfold otherBoundary
  unfold toOther Axis.edge at *
  omega

example : otherBoundary ⟨0, 3, 10⟩ ⟨1, 2, 20⟩ 0 10 4 1 = 6 := by decide

/-- The rounded output windows on the other grid hold every `x` of `[round(A), round(B))` exactly once.  (That there is such
    an `x` already makes `A < B`: rounding is monotone.) -/
theorem other_out_tiles (P O : Axis) (A B s v : Int) (hs : 0 < s) (hv : 0 ≤ v) (hP : 0 < P.p) (hO : 0 < O.p) (x : Int)
    (hx : rhe (toOther P O A) O.p ≤ x ∧ x < rhe (toOther P O B) O.p) :
    ∃! k : Nat, k < nBlocks A B s ∧ (block1 P O A B s v k).oout.mem x := by
  have hAB : A ≤ B := by
    by_contra h
    have := rhe_mono _ _ _ hO (toOther_mono P O hP.le (show B ≤ A by omega))
    omega
  refine tile_existsUnique (otherBoundary P O A B s) (otherBoundary_mono P O A B s hs.le hP hO) _
    (fun k => (block1 P O A B s v k).oout) (oout_eq_boundaries P O A B s v hs hv) x ?_
  rw [otherBoundary_eq, otherBoundary_eq, procBoundary_zero A B s hAB, procBoundary_nBlocks A B s hs]
  exact hx

/-- **Other-grid partition**: the rounded output windows on the other grid partition
    `[round(A), round(B))` - every pixel in exactly one block - because both neighbours derive a shared boundary
    by the same monotone function of the same integer corner. -/
theorem other_out_partition (P O : Axis) (A B s v : Int) (hs : 0 < s) (hv : 0 ≤ v) (hP : 0 < P.p) (hO : 0 < O.p)
    (hAB : A < B) (x : Int)
    (hx : rhe (toOther P O A) O.p ≤ x ∧ x < rhe (toOther P O B) O.p) :
    ∃! k : Nat, k < nBlocks A B s ∧ (block1 P O A B s v k).oout.mem x :=
  other_out_tiles P O A B s v hs hv hP hO x hx

/-- **Same ground**: the expanded window on the other grid covers the ground extent of the processing window,
    in whole pixels of the other grid (so the coarser grid's pixels are covered entirely). -/
theorem same_ground (P O : Axis) (w : Win1) (hO : 0 < O.p) :
    O.edge (expandTo P O w).lo ≤ P.edge w.lo ∧ P.edge w.hi ≤ O.edge (expandTo P O w).hi :=
  ⟨Int.add_le_of_le_sub_left (fdiv_mul_le (toOther P O w.lo) O.p hO),
    Int.le_add_of_sub_left_le (cdiv_mul_ge (toOther P O w.hi) O.p hO)⟩

/-- the expansion is tight: it adds less than one other-grid pixel on either side -/
theorem same_ground_tight (P O : Axis) (w : Win1) (hO : 0 < O.p) :
    P.edge w.lo < O.edge ((expandTo P O w).lo + 1) ∧ O.edge ((expandTo P O w).hi - 1) < P.edge w.hi :=
  ⟨Int.lt_add_of_sub_left_lt (fdiv_mul_gt (toOther P O w.lo) O.p hO),
    Int.add_lt_of_lt_sub_left (cdiv_mul_lt (toOther P O w.hi) O.p hO)⟩

/-- a window expanded to the other grid and rounded back contains the window it came from -/
theorem round_expand_covers (P O : Axis) (w : Win1) (hP : 0 < P.p) (hO : 0 < O.p) :
    (roundTo O P (expandTo P O w)).lo ≤ w.lo ∧ w.hi ≤ (roundTo O P (expandTo P O w)).hi :=
  have h := same_ground P O w hO
  ⟨rhe_le_of_le_mul hP (Int.sub_left_le_of_le_add h.1), le_rhe_of_mul_le hP (Int.le_sub_left_of_add_le h.2)⟩

/-- `_src_win` contains the whole source image -/
theorem srcWin_covers_src (S R : Axis) (hS : 0 < S.p) (hR : 0 < R.p) :
    (srcWin S R).lo ≤ 0 ∧ S.n ≤ (srcWin S R).hi :=
  have h := round_expand_covers S R S.full hS hR
  ⟨le_trans (rhe_bounds _ _ hS).1 h.1, le_trans h.2 (rhe_le_cdiv _ _ hS)⟩

/-- inside the image, clipping the source output window to the image changes nothing -/
theorem Block1.mem_srcOutClipped (b : Block1) (procRef : Bool) (S : Axis) (x : Int) (hx : 0 ≤ x ∧ x < S.n) :
    (b.srcOutClipped procRef S).mem x ↔ (if procRef then b.oout else b.pout).mem x := by
  rw [Block1.srcOutClipped, Win1.mem_inter]
  exact and_iff_left hx

/-- **Source partition, processing on the reference grid**: every source pixel lies in the (clipped) source output
    window of exactly one block along each axis. -/
theorem src_out_partition_procRef (S R : Axis) (s v : Int) (hs : 0 < s) (hv : 0 ≤ v) (hS : 0 < S.p) (hR : 0 < R.p)
    (x : Int) (hx : 0 ≤ x ∧ x < S.n) :
    ∃! k : Nat, k < nBlocks (refWin S R).lo (refWin S R).hi s ∧
      ((block1 R S (refWin S R).lo (refWin S R).hi s v k).srcOutClipped true S).mem x := by
  have hcov := round_expand_covers S R S.full hS hR
  simp only [Block1.mem_srcOutClipped _ _ S x hx, if_true]
  exact other_out_tiles R S _ _ s v hs hv hR hS x ⟨le_trans hcov.1 hx.1, lt_of_lt_of_le hx.2 hcov.2⟩

/-- **Source partition, processing on the source grid**: the source output windows are the processing output
    windows and, clipped to the image, partition it. -/
theorem src_out_partition_procSrc (S R : Axis) (s v : Int) (hs : 0 < s) (hv : 0 ≤ v) (hS : 0 < S.p) (hR : 0 < R.p)
    (x : Int) (hx : 0 ≤ x ∧ x < S.n) :
    ∃! k : Nat, k < nBlocks (srcWin S R).lo (srcWin S R).hi s ∧
      ((block1 S R (srcWin S R).lo (srcWin S R).hi s v k).srcOutClipped false S).mem x := by
  have hcov := srcWin_covers_src S R hS hR
  simp only [Block1.mem_srcOutClipped _ _ S x hx, Bool.false_eq_true, if_false]
  exact out_blocks_partition_proc _ _ s v hs hv x ⟨le_trans hcov.1 hx.1, lt_of_lt_of_le hx.2 hcov.2⟩

/-- **Band loop**: the block list of an `nb`-band pair consists, for every band, of exactly the row × column
    block products. -/
theorem band_loop (nb : Nat) (Prow Orow Pcol Ocol : Axis) (Ar Br sr vr Ac Bc sc vc : Int) (bp : BlockPair) :
    bp ∈ blockPairs nb Prow Orow Pcol Ocol Ar Br sr vr Ac Bc sc vc ↔
      bp.band < nb ∧ bp.row ∈ blocks1 Prow Orow Ar Br sr vr ∧ bp.col ∈ blocks1 Pcol Ocol Ac Bc sc vc ∧
      bp.outer = (bp.row.outer Ar Br || bp.col.outer Ac Bc) := by
  unfold blockPairs
  simp only [List.mem_flatMap, List.mem_range, List.mem_map]
  constructor
  · rintro ⟨b, hb, r, hr, c, hc, rfl⟩
    exact ⟨hb, hr, hc, rfl⟩
  · rintro ⟨hb, hr, hc, ho⟩
    exact ⟨bp.band, hb, bp.row, hr, bp.col, hc, ho ▸ rfl⟩

theorem blockPairs_length (nb : Nat) (Prow Orow Pcol Ocol : Axis) (Ar Br sr vr Ac Bc sc vc : Int) :
    (blockPairs nb Prow Orow Pcol Ocol Ar Br sr vr Ac Bc sc vc).length =
      nb * (nBlocks Ar Br sr * nBlocks Ac Bc sc) := by
  unfold blockPairs blocks1
  simp only [List.length_flatMap, List.length_map, List.length_range, List.map_const', List.sum_replicate_nat]

/-! ### Non-vacuity: concrete states meeting the hypotheses -/

example : ∃! k : Nat, k < nBlocks 3 19 8 ∧ (procOut 3 19 8 3 k).mem 11 :=
  out_blocks_partition_proc 3 19 8 3 (by decide) (by decide) 11 (by decide)

-- 0.4 m source on a 0.8 m reference at a half-pixel offset (units of 0.1 m): the D1 geometry
example : (blocks1 ⟨1, 8, 20⟩ ⟨13, 4, 31⟩ 1 17 5 0).map (·.oout) = [⟨-1, 9⟩, ⟨9, 19⟩, ⟨19, 29⟩, ⟨29, 31⟩] := by
  decide

example : (0 : Int) < (⟨13, 4, 31⟩ : Axis).p ∧ (0 : Int) < (⟨1, 8, 20⟩ : Axis).p ∧
    (0:Int) ≤ 5 ∧ 5 < (⟨13, 4, 31⟩ : Axis).n := by decide

/-! ### the block shape (`_auto_block_shape`): the block lengths `s` the theorems above quantify over -/

/-- halving the longer side halves the area -/
theorem halveLonger_area (h w : ℚ) : (halveLonger h w).1 * (halveLonger h w).2 = h * w / 2 := by
  unfold halveLonger; split <;> simp only <;> ring

theorem halveLonger_le (h w : ℚ) (hh : 0 ≤ h) (hw : 0 ≤ w) :
    0 ≤ (halveLonger h w).1 ∧ (halveLonger h w).1 ≤ h ∧ 0 ≤ (halveLonger h w).2 ∧ (halveLonger h w).2 ≤ w := by
  unfold halveLonger
  split
  · exact ⟨div_nonneg hh zero_le_two, by linarith, hw, le_refl _⟩
  · exact ⟨hh, le_refl _, div_nonneg hw zero_le_two, by linarith⟩

/-- the loop only ever shrinks the shape, and keeps it non-negative -/
theorem autoShapeLoop_le (fuel : Nat) (h w m : ℚ) (hh : 0 ≤ h) (hw : 0 ≤ w) :
    0 ≤ (autoShapeLoop fuel h w m).1 ∧ (autoShapeLoop fuel h w m).1 ≤ h ∧
    0 ≤ (autoShapeLoop fuel h w m).2 ∧ (autoShapeLoop fuel h w m).2 ≤ w := by
  induction fuel generalizing h w with
  | zero => exact ⟨hh, le_refl _, hw, le_refl _⟩
  | succ n ih =>
    unfold autoShapeLoop
    split
    · obtain ⟨a, b, c, d⟩ := halveLonger_le h w hh hw
      obtain ⟨e, f, g, k⟩ := ih _ _ a c
      exact ⟨e, le_trans f b, g, le_trans k d⟩
    · exact ⟨hh, le_refl _, hw, le_refl _⟩

/-- **The block fits the budget**: when the step bound is not exhausted (`h·w·4 ≤ 2^fuel · m`), the shape the loop
    returns satisfies `height · width · 4 ≤ maxBytes` -/
theorem autoShapeLoop_fits (fuel : Nat) (h w m : ℚ) (hfuel : h * w * 4 ≤ 2 ^ fuel * m) :
    (autoShapeLoop fuel h w m).1 * (autoShapeLoop fuel h w m).2 * 4 ≤ m := by
  induction fuel generalizing h w with
  | zero => rwa [pow_zero, one_mul] at hfuel
  | succ n ih =>
    unfold autoShapeLoop
    split
    · apply ih
      rw [halveLonger_area]
      rw [pow_succ] at hfuel
      linarith
    · rename_i hnot
      exact not_lt.mp hnot

/-- a window that fits the budget is one block -/
theorem autoShapeLoop_whole (fuel : Nat) (h w m : ℚ) (hfit : h * w * 4 ≤ m) : autoShapeLoop fuel h w m = (h, w) := by
  cases fuel with
  | zero => rfl
  | succ n => unfold autoShapeLoop; rw [if_neg (not_lt.mpr hfit)]

theorem ceil_bounds (q : ℚ) (n : Nat) (h1 : 1 ≤ q) (hn : q ≤ n) : 1 ≤ q.ceil ∧ q.ceil ≤ n :=
  ⟨Rat.lt_ceil_iff.mpr (lt_of_lt_of_le one_pos h1), Rat.ceil_le_iff.mpr hn⟩

/-- **Block lengths are positive and never exceed the window** - the hypotheses `0 < s` of the partition theorems -/
theorem autoBlockShape_pos (fuel H W : Nat) (m : ℚ) (s : Int × Int) (h : autoBlockShape fuel H W m = some s) :
    1 ≤ s.1 ∧ s.1 ≤ H ∧ 1 ≤ s.2 ∧ s.2 ≤ W := by
  unfold autoBlockShape at h
  simp only at h
  split at h
  · cases h
  · rename_i hn
    cases h
    rw [not_or, not_lt, not_lt] at hn
    obtain ⟨-, b, -, d⟩ := autoShapeLoop_le fuel (H : ℚ) (W : ℚ) m (Nat.cast_nonneg H) (Nat.cast_nonneg W)
    exact ⟨(ceil_bounds _ H hn.1 b).1, (ceil_bounds _ H hn.1 b).2, ceil_bounds _ W hn.2 d⟩

/-! non-vacuity: 20 x 30 pixels, 600 bytes -> two halvings -> 10 x 15; a budget below one pixel is an error -/
example : autoBlockShape 50 20 30 600 = some (10, 15) := by decide +kernel
example : autoBlockShape 50 3 3 1 = none := by decide +kernel

end Homonim
