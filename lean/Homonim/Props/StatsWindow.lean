/-
  Homonim.Props.StatsWindow (serves C12) — the valid-data window pre-pass of `ParamStats` never hides a valid pixel: for every
  set of band masks, every tiling and every completion order, each valid pixel of each band lies in a tile that `stats()` reads.
  With the window taken from the first band's mask alone that is false (kernel-checked counterexample).
-/
import Homonim.Model.StatsWindow
namespace Homonim

theorem Win.contains_iff (a : Win) (r c : Nat) :
    a.contains r c = true ↔ (a.r0 ≤ r ∧ r < a.r0 + a.h) ∧ a.c0 ≤ c ∧ c < a.c0 + a.w := by
  simp only [Win.contains, Bool.and_eq_true, decide_eq_true_eq, and_assoc]

theorem minL_le (l : List Nat) (x : Nat) (hx : x ∈ l) : minL l ≤ x := by
  obtain ⟨m, hm⟩ := Option.isSome_iff_exists.mp (List.isSome_min?_iff.mpr (List.ne_nil_of_mem hx))
  rw [minL, List.foldl_min, hm]
  exact Nat.le_trans (Nat.min_le_right _ _) ((List.min?_eq_some_iff.mp hm).2 x hx)

theorem le_maxL (l : List Nat) (x : Nat) (hx : x ∈ l) : x ≤ maxL l := by
  obtain ⟨m, hm⟩ := Option.isSome_iff_exists.mp (List.isSome_max?_iff.mpr (List.ne_nil_of_mem hx))
  rw [maxL, List.foldl_max, hm]
  exact Nat.le_trans ((List.max?_eq_some_iff.mp hm).2 x hx) (Nat.le_max_right _ _)

/-- one axis of the bounding window of the offsets `l` from `o`: it holds every one of them -/
theorem bounding_axis (l : List Nat) (o i : Nat) (hi : i ∈ l) :
    o + minL l ≤ o + i ∧ o + i < o + minL l + (maxL l - minL l + 1) := by
  have := minL_le l i hi
  have := le_maxL l i hi
  omega

theorem mem_filter_any (q : Nat → Nat → Bool) (n m i j : Nat) (hi : i < n) (hj : j < m) (h : q i j = true) :
    i ∈ (List.range n).filter fun i => (List.range m).any fun j => q i j :=
  List.mem_filter.mpr ⟨List.mem_range.mpr hi, List.any_eq_true.mpr ⟨j, List.mem_range.mpr hj, h⟩⟩

/-- the bounding window of a tile's mask holds every pixel of the tile where the mask holds -/
theorem blockDataWindow_contains (mask : Nat → Nat → Bool) (blk : Win) (r c : Nat) (hin : blk.contains r c = true)
    (hm : mask r c = true) : ∃ w, blockDataWindow mask blk = some w ∧ w.contains r c = true := by
  rw [Win.contains_iff] at hin
  obtain ⟨i, rfl⟩ := Nat.exists_eq_add_of_le hin.1.1
  obtain ⟨j, rfl⟩ := Nat.exists_eq_add_of_le hin.2.1
  have hi := mem_filter_any (fun i j => mask (blk.r0 + i) (blk.c0 + j)) blk.h blk.w i j (by omega) (by omega) hm
  have hj := mem_filter_any (fun j i => mask (blk.r0 + i) (blk.c0 + j)) blk.w blk.h j i (by omega) (by omega) hm
  refine ⟨_, if_neg ?_, (Win.contains_iff _ _ _).mpr ⟨bounding_axis _ _ i hi, bounding_axis _ _ j hj⟩⟩
  rw [List.isEmpty_eq_false_iff_exists_mem.mpr ⟨i, hi⟩, List.isEmpty_eq_false_iff_exists_mem.mpr ⟨j, hj⟩]
  exact Bool.false_ne_true

/-- one axis of `Win.union`: the bounding interval holds what the first interval holds -/
theorem union_axis (a h b k r : Nat) (hr : a ≤ r ∧ r < a + h) :
    min a b ≤ r ∧ r < min a b + (max (a + h) (b + k) - min a b) := by
  have h1 : min a b ≤ a := Nat.min_le_left a b
  have h2 : a + h ≤ max (a + h) (b + k) := Nat.le_max_left _ _
  rw [Nat.add_sub_of_le (Nat.le_trans h1 (Nat.le_trans (Nat.le_add_right a h) h2))]
  exact ⟨Nat.le_trans h1 hr.1, Nat.lt_of_lt_of_le hr.2 h2⟩

/-- the window is the same whatever order two tiles complete in -/
theorem union_comm (a b : Win) : a.union b = b.union a := by
  unfold Win.union
  simp only [Nat.min_comm a.r0 b.r0, Nat.min_comm a.c0 b.c0, Nat.max_comm (a.r0 + a.h) (b.r0 + b.h),
    Nat.max_comm (a.c0 + a.w) (b.c0 + b.w)]

/-- a union holds what either window holds -/
theorem union_contains (a b : Win) (r c : Nat) (h : a.contains r c = true ∨ b.contains r c = true) :
    (a.union b).contains r c = true := by
  have left : ∀ a b : Win, a.contains r c = true → (a.union b).contains r c = true := fun a b h => by
    rw [Win.contains_iff] at h ⊢
    exact ⟨union_axis _ _ _ _ _ h.1, union_axis _ _ _ _ _ h.2⟩
  exact h.elim (left a b) fun h => union_comm a b ▸ left b a h

/-- accumulating keeps what was already held and adds what the new tile's window holds -/
theorem accWindow_contains (acc w : Option Win) (r c : Nat)
    (h : (∃ a, acc = some a ∧ a.contains r c = true) ∨ (∃ x, w = some x ∧ x.contains r c = true)) :
    ∃ a, accWindow acc w = some a ∧ a.contains r c = true := by
  rcases h with ⟨a, rfl, ha⟩ | ⟨x, rfl, hx⟩
  · cases w with
    | none => exact ⟨a, rfl, ha⟩
    | some x => exact ⟨a.union x, rfl, union_contains a x r c (Or.inl ha)⟩
  · cases acc with
    | none => exact ⟨x, rfl, hx⟩
    | some a => exact ⟨a.union x, rfl, union_contains a x r c (Or.inr hx)⟩

/-- **The data window holds every valid pixel** (any tiling that covers the pixel, any completion order) -/
theorem dataWindow_contains (mask : Nat → Nat → Bool) (tiles : List Win) (r c : Nat) (hm : mask r c = true)
    (hcov : ∃ t ∈ tiles, t.contains r c = true) : ∃ w, dataWindow mask tiles = some w ∧ w.contains r c = true := by
  -- the accumulated window holds the pixel once it does, or once a tile covering the pixel has been met
  suffices ∀ acc : Option Win, ((∃ a, acc = some a ∧ a.contains r c = true) ∨ ∃ t ∈ tiles, t.contains r c = true) →
      ∃ a, tiles.foldl (fun acc t => accWindow acc (blockDataWindow mask t)) acc = some a ∧ a.contains r c = true from
    this none (.inr hcov)
  clear hcov
  induction tiles with
  | nil => exact fun acc h => h.resolve_right fun ⟨_, ht, _⟩ => List.not_mem_nil ht
  | cons t ts ih =>
    refine fun acc h => ih _ ?_
    rcases h with h | ⟨t', ht', hc'⟩
    · exact .inl (accWindow_contains acc _ r c (.inl h))
    · rcases List.mem_cons.mp ht' with rfl | hts
      · exact .inl (accWindow_contains acc _ r c (.inr (blockDataWindow_contains mask t' r c hc' hm)))
      · exact .inr ⟨t', hts, hc'⟩

/-- two windows holding the same pixel intersect -/
theorem intersects_of_common_pixel (a b : Win) (r c : Nat) (ha : a.contains r c = true) (hb : b.contains r c = true) :
    a.intersects b = true := by
  rw [Win.contains_iff] at ha hb
  simp only [Win.intersects, Bool.and_eq_true, decide_eq_true_eq]
  omega

/-- **No valid pixel is skipped**: a pixel valid in some band `b`, lying in tile `t1` of band 1's tiling and in tile `t` of
    band `b`'s tiling: `t` is among the tiles `stats()` reads of band `b` - whatever the other bands' masks, the tile shapes and
    the order in which the pre-pass tiles complete -/
theorem no_valid_pixel_skipped (bands : List (Nat → Nat → Bool)) (tiles1 tilesB : List Win) (b : Nat → Nat → Bool)
    (hb : b ∈ bands) (r c : Nat) (hv : b r c = true) (t1 t : Win) (ht1 : t1 ∈ tiles1) (h1 : t1.contains r c = true)
    (ht : t ∈ tilesB) (hc : t.contains r c = true) : t ∈ tilesRead bands tiles1 tilesB := by
  have hany : anyBand bands r c = true := List.any_eq_true.mpr ⟨b, hb, hv⟩
  obtain ⟨w, hw, hwc⟩ := dataWindow_contains (anyBand bands) tiles1 r c hany ⟨t1, ht1, h1⟩
  rw [tilesRead, hw]
  exact List.mem_filter.mpr ⟨ht, intersects_of_common_pixel w t r c hwc hc⟩

/-- with the window taken from the FIRST band's mask only (instead of the dataset mask) a valid pixel of another band is
    skipped: band 1 valid only at (0,0), band 2 valid at (0,3), tiles 2 columns wide -/
theorem first_band_window_skips_counterexample :
    let b1 : Nat → Nat → Bool := fun r c => r == 0 && c == 0
    let b2 : Nat → Nat → Bool := fun r c => r == 0 && c == 3
    let tiles : List Win := [⟨0, 0, 1, 2⟩, ⟨0, 2, 1, 2⟩]
    (⟨0, 2, 1, 2⟩ : Win) ∈ tilesRead [b1, b2] tiles tiles ∧ (⟨0, 2, 1, 2⟩ : Win) ∉ tilesRead [b1] tiles tiles := by
  decide +kernel

example : dataWindow (fun r c => (r == 1 && c == 5) || (r == 6 && c == 2)) [⟨0, 0, 4, 4⟩, ⟨0, 4, 4, 4⟩, ⟨4, 0, 4, 4⟩, ⟨4, 4, 4, 4⟩]
    = some ⟨1, 2, 6, 4⟩ := by decide +kernel

end Homonim
