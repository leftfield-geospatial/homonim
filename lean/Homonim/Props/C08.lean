/-
  C08 — Invalid pixels never influence any result, however the mask is encoded.
-/
import Homonim.Model.Mask
import Mathlib.Data.Rat.Init

namespace Homonim

/-- **Hidden values are overwritten before anything sees them**: under a dataset mask (internal mask or alpha band), a
    pixel whose mask bit is clear reads as invalid whatever number is stored under it. -/
theorem read_hides_values (nd : Option FVal) (s1 s2 : FVal) :
    readPx true nd s1 false = none ∧ readPx true nd s1 false = readPx true nd s2 false :=
  ⟨rfl, rfl⟩

/-- a finite value under a set mask bit is read as itself -/
theorem read_masked_valid (nd : Option FVal) (q : ℚ) : readPx true nd (.fin q) true = some q := rfl

/-- without a dataset mask a finite stored value is valid unless it is the nodata value -/
theorem readPx_nodata (nd q : ℚ) (anyBit : Bool) :
    readPx false (some (.fin nd)) (.fin q) anyBit = if q = nd then none else some q := by
  unfold readPx
  simp only [Bool.false_and, Bool.false_eq_true, if_false, Option.getD_some, FVal.nanEq, beq_iff_eq]

/-- how one logical pixel (`some v` valid / `none` invalid) is stored under each encoding -/
def storeNaN (lp : Option ℚ) : FVal := match lp with | some q => .fin q | none => .nan
def storeNodata (nd : ℚ) (lp : Option ℚ) : FVal := match lp with | some q => .fin q | none => .fin nd
def storeMasked (hidden : FVal) (lp : Option ℚ) : FVal := match lp with | some q => .fin q | none => hidden

/-- **The four encodings of one validity pattern read to the same pixel**: NaN nodata, numeric nodata (distinct from
    every valid value), internal mask and alpha band (both reach the code as a per-dataset mask) with *any* hidden
    value, all yield the logical pixel. -/
theorem encodings_agree (lp : Option ℚ) (nd : ℚ) (hnd : ∀ q, lp = some q → q ≠ nd) (hidden : FVal) (anyBit : Bool) :
    readPx false (some .nan) (storeNaN lp) anyBit = lp ∧
    readPx false (some (.fin nd)) (storeNodata nd lp) anyBit = lp ∧
    readPx true none (storeMasked hidden lp) lp.isSome = lp := by
  cases lp with
  | none => exact ⟨rfl, (readPx_nodata nd nd anyBit).trans (if_pos rfl), rfl⟩
  | some q => exact ⟨rfl, (readPx_nodata nd q anyBit).trans (if_neg (hnd q rfl)), rfl⟩

/-- two blocks that agree on their masks and on the values under the joint mask -/
def SameOnMask (b1 b2 : Block) : Prop :=
  b1.h = b2.h ∧ b1.w = b2.w ∧ (∀ i j, b1.sm i j = b2.sm i j) ∧ (∀ i j, b1.rm i j = b2.rm i j) ∧
    (∀ i j, b1.m i j = true → b1.src i j = b2.src i j ∧ b1.ref i j = b2.ref i j)

theorem SameOnMask.m_eq {b1 b2 : Block} (h : SameOnMask b1 b2) : b1.m = b2.m := by
  funext i j
  rw [Block.m, h.2.2.1, h.2.2.2.1, Block.m]

theorem SameOnMask.vals {b1 b2 : Block} (h : SameOnMask b1 b2) {i j : Nat} (hm : b1.m i j = true) :
    b1.src i j = b2.src i j ∧ b1.ref i j = b2.ref i j :=
  h.2.2.2.2 i j hm

/-- whatever takes a value from the block under the joint mask and a fixed filler elsewhere - the zero-filled arrays the
    kernel sums run over, the list of valid values - is the same for both blocks -/
theorem SameOnMask.masked_eq {b1 b2 : Block} (h : SameOnMask b1 b2) {γ : Type} (f1 f2 : Nat → Nat → γ)
    (hf : ∀ i j, b1.m i j = true → f1 i j = f2 i j) (z : γ) (i j : Nat) :
    (if b1.m i j then f1 i j else z) = if b2.m i j then f2 i j else z := by
  rw [← h.m_eq]
  split
  · rw [hf i j ‹_›]
  · rfl

theorem SameOnMask.normalised {b1 b2 : Block} (h : SameOnMask b1 b2) (n0 n1 : ℚ) :
    SameOnMask (b1.normalised n0 n1) (b2.normalised n0 n1) :=
  ⟨h.1, h.2.1, h.2.2.1, h.2.2.2.1, fun _ _ hm => ⟨congrArg (· * n0 + n1) (h.vals hm).1, (h.vals hm).2⟩⟩

/-- the kernel sums see a block only through its size, its joint mask and the zero-filled arrays -/
theorem sums_congr_on_mask {b1 b2 : Block} (h : SameOnMask b1 b2) (kh kw r c : Nat) :
    b1.sums kh kw r c = b2.sums kh kw r c := by
  have hs : b1.srcZ = b2.srcZ := funext fun i => funext fun j =>
    h.masked_eq b1.src b2.src (fun _ _ hm => (h.vals hm).1) 0 i j
  have hr : b1.refZ = b2.refZ := funext fun i => funext fun j =>
    h.masked_eq b1.ref b2.ref (fun _ _ hm => (h.vals hm).2) 0 i j
  unfold Block.sums
  rw [hs, hr, h.m_eq, h.1, h.2.1]

/-- **The fit is blind to what lies under invalid pixels**: blocks that agree on the masks and on the jointly valid
    values produce identical parameters at every pixel, for all models and settings. -/
theorem fit_congr_on_mask (b1 b2 : Block) (h : SameOnMask b1 b2) (model : Model) (kh kw : Nat) (fr : Bool)
    (th : Option ℚ) (n0 n1 : ℚ) (oF : Nat → Nat → Option ℚ) (r c : Nat) :
    fitAt b1 model kh kw fr th n0 n1 oF r c = fitAt b2 model kh kw fr th n0 n1 oF r c := by
  unfold fitAt
  rw [h.m_eq, sums_congr_on_mask h, sums_congr_on_mask (h.normalised n0 n1)]

/-- the valid values of any two arrays that agree under the joint mask -/
theorem validVals_congr_on_mask {b1 b2 : Block} (h : SameOnMask b1 b2) {f1 f2 : Nat → Nat → ℚ}
    (hf : ∀ i j, b1.m i j = true → f1 i j = f2 i j) : b1.validVals f1 = b2.validVals f2 := by
  unfold Block.validVals
  rw [h.1, h.2.1]
  congr 1; funext r; congr 1; funext c
  exact h.masked_eq (fun i j => some (f1 i j)) _ (fun i j hm => congrArg some (hf i j hm)) none r c

/-- **The block normalisation sees only the jointly valid values** (std and percentile are functions of this list) -/
theorem blocknorm_congr_on_mask (b1 b2 : Block) (h : SameOnMask b1 b2) :
    b1.validVals b1.src = b2.validVals b2.src ∧ b1.validVals b1.ref = b2.validVals b2.ref :=
  ⟨validVals_congr_on_mask h fun _ _ hm => (h.vals hm).1, validVals_congr_on_mask h fun _ _ hm => (h.vals hm).2⟩

/-! non-vacuity -/
example : readPx true none (storeMasked (.fin 340282346638528859811704183484516925440) none) false = none ∧
    readPx false (some (.fin (-9999))) (storeNodata (-9999) (some 7)) true = some 7 := by
  constructor <;> decide +kernel

end Homonim
