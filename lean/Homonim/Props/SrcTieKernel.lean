/-
  Homonim.Props.SrcTieKernel — the tie between the hand-written model and the *source text* of the package: the kernel
  fits, R², `apply` and the choice of resampling method (kernel_model.py, compare.py).

  `Homonim/GeneratedCode.lean` is regenerated on every run by the translator `harness/py2lean.py` from the Python AST of
  the arithmetic statements of kernel_model.py, compare.py, stats.py, raster_pair.py, utils.py and fuse.py.  Each theorem
  below says that a definition of the hand-written model (about which the property theorems are proved) is the
  expression the code evaluates.  A change to one of those statements changes the generated definition, and the
  corresponding theorem no longer checks.  Theorem names carry the property they serve: `src_Cxx_…`.
-/
import Homonim.GeneratedCode
import Homonim.Model.Kernel
import Homonim.Model.Resample
import Mathlib.Tactic.Ring
namespace Homonim
open Homonim.Src

/-! ### kernel_model.py (C01, C02, C07, C14) -/

/-- `_fit_gain`: the model's gain is the quotient the code computes (offset 0 is checked by the translator) -/
theorem src_C01_gain (s : Sums) (f : Bool) :
    (fitGainS s f).map Params.gain = (divO s.R s.S).map fun _ => fitGain_gain s.S s.R s.SS s.RR s.SR s.N := by
  unfold fitGainS divO fitGain_gain
  by_cases h : s.S = 0
  · rw [if_pos h]; rfl
  · rw [if_neg h]; rfl

/-- `_fit_gain_offset`: the model's OLS gain is `m_num_array / m_den_array` -/
theorem src_C01_ols_gain (s : Sums) :
    olsGain s = divO (fitGainOffset_gainNum s.S s.R s.SS s.RR s.SR s.N) (fitGainOffset_gainDen s.S s.R s.SS s.RR s.SR s.N) := by
  unfold olsGain fitGainOffset_gainNum fitGainOffset_gainDen
  congr 1
  ring

/-- `_fit_gain_offset`: the model's offset is `(ref_sum - gain·src_sum) / mask_sum` -/
theorem src_C01_ols_offset (s : Sums) (g : Rat) :
    olsOffset s g = (divO (s.R - g * s.S) s.N).map fun _ => fitGainOffset_offset s.S s.R s.SS s.RR s.SR s.N g := by
  unfold olsOffset divO fitGainOffset_offset
  by_cases h : s.N = 0
  · rw [if_pos h]; rfl
  · rw [if_neg h]; rfl

/-- `_fit_gain_offset`: the in-paint test `(R² > thresh) & (gain > 0) & mask` at a jointly valid pixel -/
theorem src_C01_keep (t g q : Rat) : keepOffset t g (some q) = fitGainOffset_keep g q t := by
  unfold keepOffset fitGainOffset_keep
  simp

/-- `_fit_gain_offset`: the re-estimated gain of an in-painted pixel is `(ref_sum - mask_sum·offset) / src_sum` -/
theorem src_C01_regain (s : Sums) (oF : Rat) (r2 : Option Rat) :
    (inpainted s (some oF) r2).map Params.gain
      = (divO (s.R - s.N * oF) s.S).map fun _ => fitGainOffset_regain s.S s.R s.SS s.RR s.SR s.N oF := by
  unfold inpainted divO fitGainOffset_regain
  simp only [Option.bind_some]
  by_cases h : s.S = 0
  · rw [if_pos h]; rfl
  · rw [if_neg h]; rfl

/-- `_r2_array`, one parameter: `1 - ss_res·mask_sum / ss_tot` -/
theorem src_C01_r2_gain (s : Sums) (g : Rat) :
    r2Gain s g = (divO (r2_res1 s.S s.R s.SS s.RR s.SR s.N g) (r2_tot s.S s.R s.SS s.RR s.SR s.N)).map fun q => 1 - q := by
  unfold r2Gain r2_res1 r2_tot
  congr 2 <;> ring

/-- `_r2_array`, two parameters -/
theorem src_C01_r2_gain_offset (s : Sums) (g o : Rat) :
    r2GainOffset s g o
      = (divO (r2_res2 s.S s.R s.SS s.RR s.SR s.N g o) (r2_tot s.S s.R s.SS s.RR s.SR s.N)).map fun q => 1 - q := by
  unfold r2GainOffset r2_res2 r2_tot
  congr 2 <;> ring

/-- `_fit_gain_blk_offset`: source normalisation and incorporation of the block model into the parameters -/
theorem src_C01_blk (sN : Sums) (f : Bool) (n0 n1 : Rat) (b : Block) (r c : Nat) :
    (b.normalised n0 n1).src r c = blk_normalise (b.src r c) n0 n1 ∧
    fitGainBlkOffsetS sN f n0 n1
      = (fitGainS sN f).map fun p => { gain := blk_gain p.gain n0 n1, offset := blk_offset p.gain n0 n1, r2 := p.r2 } :=
  ⟨rfl, rfl⟩

/-- `KernelModel.apply` -/
theorem src_C14_apply (p : Params) (x : Rat) : applyParams p x = Src.applyParams p.gain p.offset x := rfl

/-- `_get_resampling` (fuse and compare): the choice is by pixel area -/
theorem src_C02_resampling_choice (fa ta : Rat) : useDownsampling fa ta = resamplingIsDown fa ta := rfl

end Homonim
