/-
  C01 — Sliding-kernel regression equals its definition at every pixel.

  `pts = b.winPts kh kw r c` is the list of (source, reference) values over the jointly valid pixels of the
  `kh × kw` window centred on `(r, c)` and clipped to the block.  All statements are for every block shape, pixel
  values, masks, kernel shape and position.
-/
import Homonim.Lemmas.Kernel

namespace Homonim

/-- **The window is kernel-shaped, height × width, centred on the pixel** (odd kernels): `(i, j)` contributes iff it
    lies in the block and `|i - r| ≤ kh/2` (rows) and `|j - c| ≤ kw/2` (columns). -/
theorem window_is_kernel_shaped (kh kw h w r c i j : Nat) (hkh : kh % 2 = 1) (hkw : kw % 2 = 1) :
    (i, j) ∈ winPos kh kw h w r c ↔
      i < h ∧ j < w ∧ (r ≤ i + kh / 2 ∧ i ≤ r + kh / 2) ∧ (c ≤ j + kw / 2 ∧ j ≤ c + kw / 2) := by
  rw [mem_winPos]
  omega

/-- **Kernel sums are window sums over the jointly valid pixels**: the six zero-filled box sums the code computes
    equal the plain sums over `pts` - values under invalid pixels do not enter. -/
theorem sums_are_window_sums (b : Block) (kh kw r c : Nat) :
    b.sums kh kw r c = ptsSums (b.winPts kh kw r c) := sums_eq_ptsSums b kh kw r c

/-- **Pixels that are not jointly valid receive no parameters**, whatever lies under them. -/
theorem no_params_off_mask (b : Block) (model : Model) (kh kw : Nat) (fr : Bool) (th : Option ℚ) (n0 n1 : ℚ)
    (oF : Nat → Nat → Option ℚ) (r c : Nat) (h : b.m r c = false) :
    fitAt b model kh kw fr th n0 n1 oF r c = none := by
  rw [fitAt_eq_fitPts, h]
  rfl

/-- **Gain model = ratio of sums** over the window's jointly valid pixels, offset 0. -/
theorem gain_def (b : Block) (kh kw : Nat) (fr : Bool) (th : Option ℚ) (n0 n1 : ℚ) (oF : Nat → Nat → Option ℚ)
    (r c : Nat) (hm : b.m r c = true) (hS : sS (b.winPts kh kw r c) ≠ 0) :
    ∃ q, fitAt b .gain kh kw fr th n0 n1 oF r c =
      some ⟨sR (b.winPts kh kw r c) / sS (b.winPts kh kw r c), 0, q⟩ := by
  rw [fitAt_eq_fitPts, if_pos hm, fitPts, fitGainS_ptsSums, divO_of_ne hS]
  exact ⟨_, rfl⟩

/-- the code's OLS gain and offset from the sums -/
def olsG (p : Pts) : ℚ := (sN p * sSR p - sS p * sR p) / (sN p * sSS p - sS p * sS p)
def olsO (p : Pts) : ℚ := (sR p - olsG p * sS p) / sN p

/-- **Gain-offset model = the closed-form OLS solution** (no in-painting), for non-degenerate windows. -/
theorem gain_offset_def (b : Block) (kh kw : Nat) (fr : Bool) (n0 n1 : ℚ) (oF : Nat → Nat → Option ℚ)
    (r c : Nat) (hm : b.m r c = true) (hN : sN (b.winPts kh kw r c) ≠ 0)
    (hD : sN (b.winPts kh kw r c) * sSS (b.winPts kh kw r c) - sS (b.winPts kh kw r c) * sS (b.winPts kh kw r c) ≠ 0) :
    ∃ q, fitAt b .gainOffset kh kw fr none n0 n1 oF r c =
      some ⟨olsG (b.winPts kh kw r c), olsO (b.winPts kh kw r c), q⟩ := by
  rw [fitAt_eq_fitPts, if_pos hm, fitPts, fitGainOffsetS_none, ols_ptsSums, divO_of_ne hD, Option.bind_some,
    divO_of_ne hN]
  exact ⟨_, rfl⟩

/-- **Normal equations**: the coded gain/offset make the residuals sum to zero and be orthogonal to the source. -/
theorem gain_offset_normal_eqs (p : Pts) (hN : sN p ≠ 0) (hD : sN p * sSS p - sS p * sS p ≠ 0) :
    sR p - olsG p * sS p - sN p * olsO p = 0 ∧ sSR p - olsG p * sSS p - olsO p * sS p = 0 := by
  have hG : olsG p * (sN p * sSS p - sS p * sS p) = sN p * sSR p - sS p * sR p := div_mul_cancel₀ _ hD
  have hO : olsO p * sN p = sR p - olsG p * sS p := div_mul_cancel₀ _ hN
  refine ⟨by linear_combination -hO, mul_left_cancel₀ hN ?_⟩
  linear_combination -hG - sS p * hO

/-- **Ordinary least squares**: no other line has a smaller residual sum of squares over the window. -/
theorem gain_offset_minimises_rss (p : Pts) (hN : sN p ≠ 0) (hD : sN p * sSS p - sS p * sS p ≠ 0) (g' o' : ℚ) :
    rss p (olsG p) (olsO p) ≤ rss p g' o' := by
  have h := rss_diff p (olsG p) (olsO p) g' o'
  obtain ⟨e1, e2⟩ := gain_offset_normal_eqs p hN hD
  rw [e2, e1] at h
  have := sum_sq_nonneg p (g' - olsG p) (o' - olsO p)
  linarith

/-- **R² of the two-parameter model = 1 - RSS/TSS of that same window** (the code's expansion in the six sums). -/
theorem r2_gain_offset_def (p : Pts) (g o : ℚ) (hN : sN p ≠ 0) (hT : tss p ≠ 0) :
    r2GainOffset (ptsSums p) g o = some (1 - rss p g o / tss p) := by
  have hden : sN p * sRR p - sR p * sR p = tss p * sN p := by rw [mul_comm (tss p), tss_expand p hN, pow_two]
  have hnum : g * g * sSS p + 2 * (g * o) * sS p - 2 * g * sSR p - 2 * o * sR p + sRR p + sN p * (o * o) =
      rss p g o := by rw [rss_expand, pow_two, pow_two]
  simp only [r2GainOffset, ptsSums, hden, hnum, divO_of_ne (mul_ne_zero hT hN), Option.map_some,
    mul_div_mul_right _ _ hN]

/-- **R² of the one-parameter models = 1 - RSS/TSS** with the line `g·x` (offset 0). -/
theorem r2_gain_def (p : Pts) (g : ℚ) (hN : sN p ≠ 0) (hT : tss p ≠ 0) :
    r2Gain (ptsSums p) g = some (1 - rss p g 0 / tss p) := by
  rw [r2Gain_eq_r2GainOffset, r2_gain_offset_def p g 0 hN hT]

/-- **Gain-blk-offset = block-normalised ratio of sums**: parameters are `(n0·R/S', n1·R/S')` with
    `S' = Σ (n0·src + n1)` over the window's jointly valid pixels. -/
theorem blk_offset_def (b : Block) (kh kw : Nat) (fr : Bool) (th : Option ℚ) (n0 n1 : ℚ)
    (oF : Nat → Nat → Option ℚ) (r c : Nat) (hm : b.m r c = true)
    (hS : n0 * sS (b.winPts kh kw r c) + n1 * sN (b.winPts kh kw r c) ≠ 0) :
    ∃ q, fitAt b .gainBlkOffset kh kw fr th n0 n1 oF r c =
      some ⟨sR (b.winPts kh kw r c) / (n0 * sS (b.winPts kh kw r c) + n1 * sN (b.winPts kh kw r c)) * n0,
            sR (b.winPts kh kw r c) / (n0 * sS (b.winPts kh kw r c) + n1 * sN (b.winPts kh kw r c)) * n1, q⟩ := by
  rw [fitAt_eq_fitPts, if_pos hm, fitPts, fitGainBlkOffsetS, fitGainS_ptsSums, sS_normPts, sR_normPts,
    divO_of_ne hS]
  exact ⟨_, rfl⟩

/-- **The fitted line maps the window's mean source value to its mean reference value** - for every model, with or
    without R², with or without in-painting (also at pixels whose offset was in-painted, whatever the in-painted
    offset is), for every block normalisation. -/
theorem line_through_means (b : Block) (model : Model) (kh kw : Nat) (fr : Bool) (th : Option ℚ) (n0 n1 : ℚ)
    (oF : Nat → Nat → Option ℚ) (r c : Nat) (p : Params)
    (hfit : fitAt b model kh kw fr th n0 n1 oF r c = some p) (hN : sN (b.winPts kh kw r c) ≠ 0) :
    p.gain * (sS (b.winPts kh kw r c) / sN (b.winPts kh kw r c)) + p.offset =
      sR (b.winPts kh kw r c) / sN (b.winPts kh kw r c) := by
  rw [fitAt_eq_fitPts] at hfit
  split at hfit
  · rw [← fitPts_through_means hfit, add_div, mul_div_assoc, mul_div_cancel_right₀ _ hN]
  · cases hfit

/-- **Constant reference block** (gain-blk-offset): when the reference is constant `c ≠ 0` over the block, the block normalisation
    is `(n0, n1) = (std ref / std src, p1(ref) - p1(src)·n0) = (0, c)`; the normalised source is `c` everywhere, so a window with
    `N ≠ 0` jointly valid pixels has sums `S = R = N·c`, and the fitted parameters are gain `0`, offset `c` - a line that maps
    every source value, in particular the window's mean, to the (mean) reference value `c`.  No division by the block gain occurs. -/
theorem blk_offset_constant_reference (s : Sums) (c : ℚ) (hc : c ≠ 0) (hN : s.N ≠ 0) (hS : s.S = s.N * c) (hR : s.R = s.N * c)
    (findR2 : Bool) :
    ∃ p, fitGainBlkOffsetS s findR2 0 c = some p ∧ p.gain = 0 ∧ p.offset = c ∧ ∀ x : ℚ, applyParams p x = c := by
  have hS' : s.S ≠ 0 := hS ▸ mul_ne_zero hN hc
  have hg : s.R / s.S = 1 := by rw [hR, ← hS, div_self hS']
  refine ⟨_, by rw [fitGainBlkOffsetS, fitGainS_eq_some_iff.2 ⟨hS', rfl⟩]; rfl, ?_, ?_, fun x => ?_⟩ <;>
    simp only [applyParams, hg, mul_zero, zero_mul, one_mul, zero_add]

/-- **Kernel shape validation**: accepted iff both dimensions are odd and at least one, and the area is at least two
    for the gain-offset model. -/
theorem validate_kernel_shape_spec (kh kw : Int) (model : Model) :
    validKernelShape kh kw model = true ↔
      kh % 2 = 1 ∧ kw % 2 = 1 ∧ 1 ≤ kh ∧ 1 ≤ kw ∧ (model = .gainOffset → 2 ≤ kh * kw) := by
  simp only [validKernelShape, Bool.and_eq_true, Bool.or_eq_true, decide_eq_true_eq, bne_iff_ne, ne_eq, and_assoc,
    ← imp_iff_not_or]

/-! ### Non-vacuity: a concrete 2 × 3 block with a hole, kernel 1 × 3 -/

def exBlock : Block :=
  { h := 2, w := 3
    src := fun r c => (r * 3 + c + 1 : Nat)
    ref := fun r c => (2 * (r * 3 + c) + 3 : Nat)
    sm := fun r c => !(r == 1 && c == 1)
    rm := fun _ _ => true }

example : exBlock.m 0 1 = true ∧ sS (exBlock.winPts 1 3 0 1) ≠ 0 ∧ sN (exBlock.winPts 1 3 0 1) ≠ 0 := by
  decide +kernel

example : fitAt exBlock .gainOffset 1 3 true none 1 0 (fun _ _ => none) 0 1 = some ⟨2, 1, some 1⟩ := by decide +kernel

example : exBlock.winPts 1 3 1 0 = [(4, 9)] := by decide +kernel   -- the hole at (1,1) is not in the window of (1,0)

end Homonim
