/-
  C09 — Fail loud: a failed block is never swallowed, and never hangs or leaks.

  On the block fan-out machine of Model/Sched.lean with an arbitrary fault plan, for every number of threads, every
  job list and every schedule (see Props/C04.lean for `Reachable`, the lock invariant and `progress`).
-/
import Homonim.Props.C04
import Homonim.Model.Cli

namespace Homonim

/-- **No deadlock under faults**: whatever steps fail, every reachable non-final state has an enabled thread -/
theorem no_deadlock_under_faults (param : Bool) (faults : Faults) (jobs : List Nat) (T : Nat) (hT : 0 < T) (s : SState)
    (h : Reachable param faults jobs T s) (hnf : s.final = false) : ∃ t, (step param faults s t).isSome = true :=
  progress param faults jobs T hT s h hnf

/-- **Locks are free at the end**: in a final reachable state no lock is held (also after failures) -/
theorem locks_free_at_end (param : Bool) (faults : Faults) (jobs : List Nat) (T : Nat) (s : SState)
    (h : Reachable param faults jobs T s) (hf : s.final = true) : s.locksFree = true := by
  refine List.all_eq_true.mpr fun r _ => ?_
  cases ho : s.owner r with
  | none => rfl
  | some t =>
    obtain ⟨ts, hts, _⟩ := (reachable_inv param faults jobs T s h r t).1 ho
    cases (final_iff.mp hf).2 _ (List.mem_of_getElem? hts)

/-- **Every submitted job finishes exactly once**: in a final reachable state the finished jobs are a permutation of the
    submitted ones (a failure of one job does not cancel the others) -/
theorem all_jobs_finish (param : Bool) (faults : Faults) (jobs : List Nat) (T : Nat) (s : SState)
    (h : Reachable param faults jobs T s) (hf : s.final = true) : (s.done.map Prod.fst).Perm jobs :=
  (jinv_reach (faults := faults) h).final_done_perm hf

/-- **Fail loud**: if any finished job failed, the caller sees an exception -/
theorem fail_loud (s : SState) (j pc : Nat) (h : (j, some pc) ∈ s.done) : s.outcome = .raised := by
  cases hok : s.outcome with
  | raised => rfl
  | ok => exact nomatch outcome_ok_iff.mp hok _ h

/-- a job whose program contains a faulting `io`/`compute` step does fail when it is run to completion: in a final
    reachable state it is recorded as failed at its first faulting step -/
theorem faulty_job_fails (param : Bool) (faults : Faults) (jobs : List Nat) (T : Nat) (s : SState)
    (h : Reachable param faults jobs T s) (hf : s.final = true) (j pc : Nat) (hj : j ∈ jobs)
    (hfault : faults j pc = true)
    (hinstr : (∃ r, instrAt param pc = some (.io r)) ∨ instrAt param pc = some .compute) :
    ∃ pc', (j, some pc') ∈ s.done := by
  have hinv := jinv_reach h
  obtain ⟨res, hm⟩ := hinv.final_done_mem hf hj
  cases res with
  | none => exact nomatch hfault.symm.trans ((hinv.ok j hm pc).1 hinstr)
  | some pc' => exact ⟨pc', hm⟩

/-- **Outcome ok implies every block was written**: in a final reachable state with outcome `ok`, every submitted job
    completed its corrected write (and its parameter write when a parameter image is requested) -/
theorem ok_imp_all_written (param : Bool) (faults : Faults) (jobs : List Nat) (T : Nat) (s : SState)
    (h : Reachable param faults jobs T s) (hf : s.final = true) (hok : s.outcome = .ok) (j : Nat) (hj : j ∈ jobs) :
    (j, Res.C) ∈ s.writes ∧ (param = true → (j, Res.P) ∈ s.writes) := by
  have hw := (jinv_reach (faults := faults) h).final_ok_writes_iff hf hok j
  exact ⟨(hw .C).mpr ⟨hj, Or.inl rfl, _, instrAt_ioC param⟩,
    fun hp => (hw .P).mpr ⟨hj, Or.inr rfl, _, hp ▸ instrAt_ioP⟩⟩


/-- conversely the outcome is `ok` only if no finished job failed -/
theorem ok_imp_no_failure (s : SState) (h : s.outcome = .ok) : ∀ d ∈ s.done, d.2 = none :=
  outcome_ok_iff.mp h

/-- a faulting `io` step releases the lock it held and ends the job as failed; a faulting step never leaves a lock held -/
theorem fault_releases_lock (param : Bool) (faults : Faults) (s s' : SState) (t : Nat) (ts : TState) (r : Res)
    (hth : s.threads[t]? = some (some ts)) (hio : instrAt param ts.pc = some (.io r)) (hf : faults ts.job ts.pc = true)
    (hs : step param faults s t = some s') :
    s'.owner r = none ∧ s'.threads[t]? = some none ∧ (ts.job, some ts.pc) ∈ s'.done := by
  unfold step at hs
  simp only [hth, hio, hf, if_true, Option.some.injEq] at hs
  subst hs
  exact ⟨if_pos rfl, List.getElem?_set_self (lt_of_get hth), List.mem_append_right _ (List.mem_singleton_self _)⟩

/-- the CLI wrapper: any exception becomes `click.Abort` (exit status 1); status 0 only without an exception -/
def cliExit (raised : Bool) : Nat := if raised then 1 else 0

theorem cli_exit_nonzero (raised : Bool) : cliExit raised = 0 ↔ raised = false := by
  cases raised <;> decide

/-! ### The commands' handlers -/

theorem command_exit_is_cliExit (env : String → Bool) (raised : Bool) : commandExit cliHandler env raised = cliExit raised := by
  cases raised <;> rfl

/-- **Fail loud at the command line, whatever the run's conditions**: with the handler the three commands have, an exception
    gives exit status 1 under every assignment of the conditions (verbosity, …), and status 0 means nothing was raised -/
theorem command_exit_zero_iff (env : String → Bool) (raised : Bool) :
    commandExit cliHandler env raised = 0 ↔ raised = false := by
  rw [command_exit_is_cliExit]
  exact cli_exit_nonzero raised

/-- the pattern of seeded change C09-k: the abort sits in the branch for quiet runs only; a verbose run that fails exits 0 -/
theorem conditional_abort_fails_silently :
    let h : HBody := .ite "not verbose" (.log .abort) (.log .fallthrough)
    commandExit h (fun _ => true) true = 1 ∧ commandExit h (fun _ => false) true = 0 :=
  ⟨rfl, rfl⟩

/-- a handler aborts under every condition iff every path through it ends in `abort` -/
def HBody.allAbort : HBody → Bool
  | .abort => true
  | .fallthrough => false
  | .log n => n.allAbort
  | .ite _ t e => t.allAbort && e.allAbort

theorem allAbort_exit (h : HBody) (hh : h.allAbort = true) (env : String → Bool) : h.exit env = 1 := by
  induction h with
  | abort => rfl
  | fallthrough => nomatch hh
  | log n ih => exact ih hh
  | ite c t e iht ihe =>
    simp only [HBody.allAbort, Bool.and_eq_true] at hh
    simp only [HBody.exit]
    split
    · exact iht hh.1
    · exact ihe hh.2


end Homonim
