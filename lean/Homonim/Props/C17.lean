/-
  C17 — Partial masking keeps exactly the fully supported pixels.
-/
import Homonim.Lemmas.Image

namespace Homonim

/-- **Erosion characterisation**: a pixel survives iff every position of the `(kh+2) x (kw+2)` window anchored at its
    centre lies inside the block and is set. -/
theorem erode_spec (kh kw h w : Nat) (m : Nat → Nat → Bool) (r c : Nat) :
    erodeAt kh kw h w m r c = true ↔
      ∀ di, di < kh + 2 → ∀ dj, dj < kw + 2 →
        let i : Int := (r : Int) - ((kh + 2) / 2 : Nat) + di
        let j : Int := (c : Int) - ((kw + 2) / 2 : Nat) + dj
        0 ≤ i ∧ i < h ∧ 0 ≤ j ∧ j < w ∧ m i.toNat j.toNat = true := by
  simp only [erodeAt_eq_erodeI, erodeI_iff, Bool.and_eq_true, decide_eq_true_eq, and_assoc]

/-- **Full-coverage definition**: a processing pixel is kept iff it and every pixel of the kernel window grown by one
    pixel lie inside the block, carry parameters (valid in the reference and in the resampled source) and are covered
    only by valid pixels of the other image. -/
theorem full_coverage_def (kh kw h w : Nat) (cover pm : Nat → Nat → Bool) (r c : Nat) :
    fullCoverageAt kh kw h w cover pm r c = true ↔
      ∀ di, di < kh + 2 → ∀ dj, dj < kw + 2 →
        let i : Int := (r : Int) - ((kh + 2) / 2 : Nat) + di
        let j : Int := (c : Int) - ((kw + 2) / 2 : Nat) + dj
        0 ≤ i ∧ i < h ∧ 0 ≤ j ∧ j < w ∧ cover i.toNat j.toNat = true ∧ pm i.toNat j.toNat = true := by
  unfold fullCoverageAt
  rw [erode_spec]
  simp only [Bool.and_eq_true]

/-- **Subset**: a kept pixel is itself covered and carries parameters (so the result is a subset of the joint mask,
    hence of the source mask) -/
theorem partial_subset (kh kw h w : Nat) (cover pm : Nat → Nat → Bool) (r c : Nat)
    (hk : fullCoverageAt kh kw h w cover pm r c = true) : cover r c = true ∧ pm r c = true := by
  have := (full_coverage_def kh kw h w cover pm r c).1 hk ((kh + 2) / 2) (by omega) ((kw + 2) / 2) (by omega)
  simp only [Int.sub_add_cancel, Int.toNat_natCast] at this
  exact this.2.2.2.2

/-- **Strictness**: no pixel of the first row (or first column) of the processing window survives - the grown window
    reaches outside - so for every non-empty image some valid pixel is removed. -/
theorem partial_strict (kh kw h w : Nat) (cover pm : Nat → Nat → Bool) (r c : Nat)
    (hedge : r = 0 ∨ c = 0) : fullCoverageAt kh kw h w cover pm r c = false := by
  rw [← Bool.not_eq_true, full_coverage_def]
  intro hall
  have := hall 0 (by omega) 0 (by omega)
  simp only at this
  rcases hedge with rfl | rfl
  · have h1 := this.1; omega
  · have h1 := this.2.2.1; omega

/-- one axis of a sub-block `[r0, r0 + h')` of `[0, H)`: a position `x` of the whole block, seen from the sub-block at `x - r0` -/
theorem crop_axis (r0 h' H : Nat) (hrs : r0 + h' ≤ H) (x : Int) :
    ((0 ≤ x - r0 ∧ x - r0 < h') ↔ ((r0 : Int) ≤ x ∧ x < r0 + h')) ∧ ((r0 : Int) ≤ x → (x - r0).toNat + r0 = x.toNat) ∧
      ((r0 : Int) ≤ x ∧ x < r0 + h' → 0 ≤ x ∧ x < H) := by
  omega

/-- **Block invariance**: the erosion over a sub-block `[r0, r0+h') x [c0, c0+w')` equals the erosion over the whole
    window at every pixel whose grown window stays inside the sub-block wherever it is inside the whole window
    (which the block overlap `ceil(k/2)` = grown radius guarantees for the pixels of the block's output window). -/
theorem partial_block_invariant (kh kw H W : Nat) (m : Nat → Nat → Bool) (r0 c0 h' w' r c : Nat)
    (hr : r0 ≤ r) (hc : c0 ≤ c) (hrs : r0 + h' ≤ H) (hcs : c0 + w' ≤ W)
    (hin : ∀ di, di < kh + 2 → ∀ dj, dj < kw + 2 →
      let i : Int := (r : Int) - ((kh + 2) / 2 : Nat) + di
      let j : Int := (c : Int) - ((kw + 2) / 2 : Nat) + dj
      (0 ≤ i ∧ i < H ∧ 0 ≤ j ∧ j < W) → (r0 ≤ i ∧ i < r0 + h' ∧ c0 ≤ j ∧ j < c0 + w')) :
    erodeAt kh kw h' w' (fun i j => m (i + r0) (j + c0)) (r - r0) (c - c0) = erodeAt kh kw H W m r c := by
  rw [erodeAt_eq_erodeI, erodeAt_eq_erodeI, Int.ofNat_sub hr, Int.ofNat_sub hc]
  refine erodeI_congr_pos kh kw _ _ _ _ _ _ fun di hdi dj hdj => ?_
  have h := hin di hdi dj hdj
  rw [show (r : Int) - r0 - (((kh + 2) / 2 : Nat) : Int) + (di : Int) =
      (r : Int) - (((kh + 2) / 2 : Nat) : Int) + (di : Int) - r0 by omega,
    show (c : Int) - c0 - (((kw + 2) / 2 : Nat) : Int) + (dj : Int) =
      (c : Int) - (((kw + 2) / 2 : Nat) : Int) + (dj : Int) - c0 by omega, Bool.eq_iff_iff]
  generalize (r : Int) - (((kh + 2) / 2 : Nat) : Int) + (di : Int) = i at h ⊢
  generalize (c : Int) - (((kw + 2) / 2 : Nat) : Int) + (dj : Int) = j at h ⊢
  obtain ⟨bi, ti, wi⟩ := crop_axis r0 h' H hrs i
  obtain ⟨bj, tj, wj⟩ := crop_axis c0 w' W hcs j
  simp only [Bool.and_eq_true, decide_eq_true_eq] at h ⊢
  constructor
  · rintro ⟨⟨⟨⟨a1, a2⟩, a3⟩, a4⟩, a5⟩
    rw [ti (bi.1 ⟨a1, a2⟩).1, tj (bj.1 ⟨a3, a4⟩).1] at a5
    exact ⟨⟨⟨wi (bi.1 ⟨a1, a2⟩), (wj (bj.1 ⟨a3, a4⟩)).1⟩, (wj (bj.1 ⟨a3, a4⟩)).2⟩, a5⟩
  · rintro ⟨⟨⟨⟨a1, a2⟩, a3⟩, a4⟩, a5⟩
    obtain ⟨b1, b2, b3, b4⟩ := h ⟨a1, a2, a3, a4⟩
    rw [ti b1, tj b3]
    exact ⟨⟨⟨bi.2 ⟨b1, b2⟩, (bj.2 ⟨b3, b4⟩).1⟩, (bj.2 ⟨b3, b4⟩).2⟩, a5⟩

/-- the grown radius equals the block overlap: `(k + 2) / 2 = overlap_for_kernel k` for odd `k`, so the hypothesis of
    `partial_block_invariant` holds for every pixel of an output window - and fails for an overlap one smaller. -/
theorem grown_radius_eq_overlap (k : Nat) (hk : k % 2 = 1) : (k + 2) / 2 = overlapForKernel k := by
  unfold overlapForKernel; omega

/-! non-vacuity -/
example : erodeAt 1 1 5 5 (fun _ _ => true) 2 2 = true ∧ erodeAt 1 1 5 5 (fun _ _ => true) 0 2 = false ∧
    erodeAt 1 1 5 5 (fun i j => !(i == 1 && j == 1)) 2 2 = false := by decide

end Homonim
