/-
  C15 — Band matching is sound: one-to-one, in range, within tolerance, order preserving.

  `matchBands srcB srcW refB refW force tol` is `_match_pair_bands` after `_get_band_info`: `srcB`/`refB` are the
  candidate 1-based band numbers (the user's selections, or the default candidates) and `srcW`/`refW` their
  wavelengths (`none` = no wavelength).  `.ok (S, R)` are the matched source / reference band lists.
-/
import Homonim.Lemmas.Bands
import Mathlib.Tactic.NormNum

namespace Homonim

/-- **Equal length** -/
theorem match_lengths_eq (srcB : List Nat) (srcW : List (Option ℚ)) (refB : List Nat) (refW : List (Option ℚ))
    (force : Bool) (tol : ℚ) (S R : List Nat) (h : matchBands srcB srcW refB refW force tol = .ok (S, R)) :
    S.length = R.length := by
  obtain ⟨_, mb, mb2, _, _, _, rfl, rfl⟩ := matchBands_ok h
  rw [List.length_map, List.length_map]

/-- **Source order is kept**: the matched source bands are a sub-list of the given order -/
theorem match_src_order (srcB : List Nat) (srcW : List (Option ℚ)) (refB : List Nat) (refW : List (Option ℚ))
    (force : Bool) (tol : ℚ) (S R : List Nat) (h : matchBands srcB srcW refB refW force tol = .ok (S, R)) :
    S.Sublist srcB := by
  obtain ⟨_, mb, mb2, _, _, _, rfl, rfl⟩ := matchBands_ok h
  exact pairsOf_fst_sublist _ _

/-- **Only candidate reference bands are used** -/
theorem match_ref_subset (srcB : List Nat) (srcW : List (Option ℚ)) (refB : List Nat) (refW : List (Option ℚ))
    (force : Bool) (tol : ℚ) (S R : List Nat) (hs : srcW.length = srcB.length) (hr : refW.length = refB.length)
    (h : matchBands srcB srcW refB refW force tol = .ok (S, R)) : ∀ r ∈ R, r ∈ refB := by
  obtain ⟨_, mb, mb2, _, _, hout, rfl, rfl⟩ := matchBands_ok h
  intro r hr'
  exact hout.sub r (by simpa using (pairsOf_snd_sublist srcB mb2).subset hr')

/-- **No reference band is used twice** (for a duplicate-free reference selection) -/
theorem match_ref_nodup (srcB : List Nat) (srcW : List (Option ℚ)) (refB : List Nat) (refW : List (Option ℚ))
    (force : Bool) (tol : ℚ) (S R : List Nat) (hs : srcW.length = srcB.length) (hr : refW.length = refB.length)
    (hnd : refB.Nodup) (h : matchBands srcB srcW refB refW force tol = .ok (S, R)) : R.Nodup := by
  obtain ⟨_, mb, mb2, _, _, hout, rfl, rfl⟩ := matchBands_ok h
  exact (hout.nodup hnd).sublist (pairsOf_snd_sublist srcB mb2)

/-- **No selected source band is silently dropped** unless matching is forced -/
theorem match_no_silent_drop (srcB : List Nat) (srcW : List (Option ℚ)) (refB : List Nat) (refW : List (Option ℚ))
    (tol : ℚ) (S R : List Nat) (hs : srcW.length = srcB.length) (hr : refW.length = refB.length) (hnd : refB.Nodup)
    (h : matchBands srcB srcW refB refW false tol = .ok (S, R)) : S = srcB := by
  obtain ⟨_, _, _, rfl, _⟩ := matchBands_ok_unforced hnd h
  rfl

/-- **Within tolerance**: unless matching is forced, every matched pair that has a wavelength on both sides differs by at
    most `tol` relative to the source wavelength - including pairs made by the file-order fallback.

    The hypothesis `hrany : npAny refW = true` (the reference wavelengths are not all `0.0`) is needed: when every
    reference wavelength is `0.0`, numpy's `any()` is falsy, the wavelength stage is skipped and the file-order fallback
    pairs the bands with no tolerance check, e.g. `matchBands [1] [some 1] [1] [some 0] false (1/10) = .ok ([1], [1])`
    although `|1 - 0| > 1/10 * 1` (`within_tol_zero_wavelength_counterexample`). -/
theorem match_within_tol (srcB : List Nat) (srcW : List (Option ℚ)) (refB : List Nat) (refW : List (Option ℚ))
    (tol : ℚ) (S R : List Nat) (hs : srcW.length = srcB.length) (hr : refW.length = refB.length)
    (hnds : srcB.Nodup) (hnd : refB.Nodup) (hpos : ∀ a, some a ∈ srcW → 0 < a)
    (hrany : npAny refW = true)
    (h : matchBands srcB srcW refB refW false tol = .ok (S, R)) :
    ∀ (k i j : Nat) (a b : ℚ), S[k]? = some (srcB.getD i 0) → R[k]? = some (refB.getD j 0) → i < srcB.length →
      j < refB.length →
      srcW[i]? = some (some a) → refW[j]? = some (some b) → |a - b| ≤ tol * a := by
  intro k i j a b hS hR hi hj hwi hwj
  obtain ⟨_, _, _, rfl, _⟩ := matchBands_ok_unforced hnd h
  obtain ⟨hk, hk'⟩ := List.getElem?_eq_some_iff.1 hS
  rw [List.getD_eq_getElem _ _ hi] at hk'
  cases hnds.getElem_inj_iff.1 hk'
  exact matchBands_within_tol hnd hrany h hj (hpos a (List.mem_of_getElem? hwi)) hR hwi hwj

/-- **Nearest band wins**: with wavelengths on every band, if every source band's nearest reference band is strictly
    nearest, distinct from the other source bands' nearest bands and within tolerance, each source band gets exactly
    that band. -/
theorem match_nearest (srcB : List Nat) (srcW : List (Option ℚ)) (refB : List Nat) (refW : List (Option ℚ)) (tol : ℚ)
    (hs : srcW.length = srcB.length) (hr : refW.length = refB.length) (hnm : srcB.length ≤ refB.length)
    (hnd : refB.Nodup) (hne : srcB ≠ [])
    (sw rw : Nat → ℚ) (hsw : ∀ i, i < srcB.length → srcW[i]? = some (some (sw i)) ∧ 0 < sw i)
    (hrw : ∀ j, j < refB.length → refW[j]? = some (some (rw j)))
    (assign : Nat → Nat) (hin : ∀ i, i < srcB.length → assign i < refB.length)
    (hinj : ∀ i i', i < srcB.length → i' < srcB.length → assign i = assign i' → i = i')
    (hnear : ∀ i j, i < srcB.length → j < refB.length → j ≠ assign i →
      |sw i - rw (assign i)| / sw i < |sw i - rw j| / sw i)
    (htol : ∀ i, i < srcB.length → |sw i - rw (assign i)| / sw i ≤ tol) :
    matchBands srcB srcW refB refW false tol =
      .ok (srcB, (List.range srcB.length).map fun i => refB.getD (assign i) 0) := by
  have hn0 : 0 < srcB.length := List.length_pos_iff.2 hne
  have hsany : npAny srcW = true := npAny_of_ne_zero (hsw 0 hn0).1 (hsw 0 hn0).2.ne'
  rw [matchBands_eq, if_neg (by rw [Bool.not_false, Bool.and_true, decide_eq_true_eq]; omega)]
  cases hrany : npAny refW with
  | true =>
    have hlen : ((List.range srcB.length).map fun i => refB.getD (assign i) 0).length = srcB.length := by
      rw [List.length_map, List.length_range]
    have h1 : stage1 srcB.length srcW refB refW false tol =
        .ok (((List.range srcB.length).map fun i => refB.getD (assign i) 0).map some) := by
      rw [stage1, greedy_nearest (fun i j => |sw i - rw j| / sw i)
        (fun i j hi hj => distOf_entry (hsw i hi).1 (hrw j hj) (hsw i hi).2.ne') assign hin hinj hnear,
        hsany, hrany, if_pos (by rfl), if_neg]
      · simp only [toRef, List.map_map]; rfl
      · rw [Bool.not_eq_true, List.any_eq_false]
        intro e he h
        obtain ⟨i, hi, rfl⟩ := List.mem_map.1 he
        exact absurd (of_decide_eq_true h) (not_lt.2 (htol i (List.mem_range.1 hi)))
    simp only [h1, stage2_map_some hlen, pairsOf_map_some, List.map_fst_zip hlen.ge, List.map_snd_zip hlen.le]
  | false =>
    -- every reference wavelength is `0.0`: only possible with a single band on both sides
    have hrw0 : ∀ j, j < refB.length → rw j = 0 := fun j hj =>
      Option.some.inj (npAny_false hrany (List.mem_of_getElem? (hrw j hj)))
    have hall : ∀ j, j < refB.length → j = assign 0 := fun j hj => by
      by_contra hne
      have := hnear 0 j hn0 hj hne
      rw [hrw0 j hj, hrw0 _ (hin 0 hn0)] at this
      exact lt_irrefl _ this
    have ha := hall 0 (by omega)
    have hm1 : refB.length = 1 := by
      by_contra hm
      have := hall 1 (by omega)
      omega
    obtain ⟨s, rfl⟩ := List.length_eq_one_iff.1 (show srcB.length = 1 by omega)
    obtain ⟨r, rfl⟩ := List.length_eq_one_iff.1 hm1
    rw [stage1, hsany, hrany, if_neg (by decide)]
    show _ = Except.ok ([s], [[r].getD (assign 0) 0])
    rw [← ha]
    rfl

/-- **Witness (finding D12)**: the hypothesis `npAny refW = true` of `match_within_tol` cannot be dropped - when every
    reference wavelength is `0.0` numpy's `any()` is false, the wavelength stage is skipped and the file-order fallback pairs
    a 0.5 um source band with a 0 um reference band although they differ by 100 %.  The real code does the same. -/
theorem within_tol_zero_wavelength_counterexample :
    matchBands [1] [some (1 / 2)] [1] [some 0] false (1 / 10) = .ok ([1], [1]) ∧ ¬ (|(1 / 2 : ℚ) - 0| ≤ 1 / 10 * (1 / 2)) := by
  constructor
  · decide +kernel
  · norm_num

/-- **Witness (finding D52)**: the hypothesis `refB.Nodup` of `match_ref_nodup` cannot be dropped - a reference selection that names
    a band twice is passed through, and that band is paired with two source bands (with or without wavelengths).  The real code
    does the same (`ref_bands=(3, 3)`). -/
theorem ref_nodup_needs_nodup_selection :
    matchBands [1, 2] [none, none] [3, 3] [none, none] false (1 / 10) = .ok ([1, 2], [3, 3]) ∧
    matchBands [1, 2] [some (13 / 20), some (7 / 10)] [3, 3] [some (133 / 200), some (133 / 200)] false (1 / 10) = .ok ([1, 2], [3, 3]) := by
  constructor <;> decide +kernel

end Homonim
