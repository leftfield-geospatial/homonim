/-
  C03 — Valid-data mask fidelity: no invented pixels, no lost pixels.
-/
import Homonim.Model.Fuse
import Homonim.Props.C01

namespace Homonim

/-- **No invented pixels** (reference-grid processing): a corrected pixel is valid only if the source pixel is -
    unconditionally: any data, any parameters, any resampling weights. -/
theorem corrected_valid_imp_src_valid (s : Option ℚ) (c : Bool) (l : List (ℚ × Params)) (v : ℚ)
    (h : correctedPx s c l = some v) : s.isSome = true := by
  unfold correctedPx at h
  cases s with
  | none => cases h
  | some x => rfl

/-- **No invented pixels** (source-grid processing) -/
theorem corrected_valid_imp_src_valid_srcGrid (s : Option ℚ) (p : Option Params) (v : ℚ)
    (h : correctedPxSrcGrid s p = some v) : s.isSome = true := by
  unfold correctedPxSrcGrid at h
  cases s with
  | none => cases p <;> cases h
  | some x => rfl

theorem sum_nonneg_of_nonneg (l : List ℚ) (h : ∀ x ∈ l, 0 ≤ x) : 0 ≤ l.sum := List.sum_nonneg h

/-- **R1, validity of the averaged source**: a normalised mean over a non-empty support with positive weights exists
    (and is positive on positive data: `wmean_pos`) -/
theorem wmean_isSome_of_pos (l : List (ℚ × ℚ)) (hne : l ≠ []) (hw : ∀ p ∈ l, 0 < p.1) : (wmean l).isSome = true :=
  wmean_isSome_iff.2 (sum_map_pos_of_pos l hne hw).ne'

/-- **Parameters exist on positive data** (gain model): at a jointly valid pixel whose window holds at least one
    jointly valid pixel with positive source values, the kernel source sum is positive and the fit succeeds. -/
theorem gain_exists_of_pos (b : Block) (kh kw : Nat) (fr : Bool) (th : Option ℚ) (n0 n1 : ℚ)
    (oF : Nat → Nat → Option ℚ) (r c : Nat) (hm : b.m r c = true) (hne : b.winPts kh kw r c ≠ [])
    (hpos : ∀ x ∈ b.winPts kh kw r c, 0 < x.1) :
    (fitAt b .gain kh kw fr th n0 n1 oF r c).isSome = true := by
  obtain ⟨q, hq⟩ := gain_def b kh kw fr th n0 n1 oF r c hm (sum_map_pos_of_pos _ hne hpos).ne'
  rw [hq]; rfl

/-- **Non-negative up-sampling keeps validity**: with non-negative kernel weights that do not all vanish, the
    up-sampled parameters exist -/
theorem upsample_isSome_of_nonneg (l : List (ℚ × Params)) (hw : ∀ p ∈ l, 0 ≤ p.1)
    (hpos : ∃ p ∈ l, 0 < p.1) : (upsampleParams l).isSome = true :=
  (upsampleParams_isSome_iff l).2 (sum_map_pos l hw hpos).ne'

/-- **No lost pixels**: a valid source pixel whose centre falls in a processing pixel that carries parameters, with a
    non-negative up-sampling kernel, is valid in the corrected image. -/
theorem src_valid_imp_corrected_valid (x : ℚ) (l : List (ℚ × Params)) (hw : ∀ p ∈ l, 0 ≤ p.1)
    (hpos : ∃ p ∈ l, 0 < p.1) : (correctedPx (some x) true l).isSome = true := by
  unfold correctedPx
  simp only [if_true, Option.isSome_map]
  exact upsample_isSome_of_nonneg l hw hpos

/-- **No lost pixels** (source-grid processing) -/
theorem src_valid_imp_corrected_valid_srcGrid (x : ℚ) (p : Params) :
    (correctedPxSrcGrid (some x) (some p)).isSome = true := rfl

/-- **The converse fails for the two-parameter model without in-painting** (finding D17): a kernel window that holds a
    single jointly valid pixel has no least-squares solution - `N·ΣS² − (ΣS)² = 0` - whatever its values, so that pixel
    carries no parameters and is lost.  (With the gain model the same window gives the gain `y / x`: `gain_exists_of_pos`.) -/
theorem gain_offset_single_point_no_fit (x y : ℚ) (fr : Bool) (oF : Option ℚ) :
    fitGainOffsetS ⟨1, x, y, x * x, y * y, x * y⟩ fr none oF = none := by
  rw [fitGainOffsetS_none, ols_of_det_eq_zero (by ring)]
  rfl

/-- **When the gain model has a solution** (findings D33, D51): exactly when the window's source sum is not zero.  A window of valid
    zero-valued source pixels (or mixed-sign data summing to zero) has none, whatever the reference holds - the pixel carries no
    parameters and is lost; so does every window of a block whose normalised source sums to zero. -/
theorem gain_fit_exists_iff (s : Sums) (fr : Bool) : (fitGainS s fr).isSome = true ↔ s.S ≠ 0 := by
  simp only [Option.isSome_iff_exists, fitGainS_eq_some_iff, exists_and_left, exists_eq, and_true]

/-- **A constant source window has no least-squares solution** (findings D34, D36, D66; D17 is the case `N = 1`): if every
    jointly valid source value of the window equals `c`, then `N·ΣS² − (ΣS)² = N·(N c²) − (N c)² = 0` and the two-parameter model
    without in-painting gives no parameters, whatever the reference holds and however large the window is. -/
theorem gain_offset_constant_source_no_fit (n c r rr sr : ℚ) (fr : Bool) (oF : Option ℚ) :
    fitGainOffsetS ⟨n, n * c, r, n * (c * c), rr, sr⟩ fr none oF = none := by
  rw [fitGainOffsetS_none, ols_of_det_eq_zero (by ring)]
  rfl

/-- … and with in-painting on, such a window is always handed to the in-painter (its R² does not exist), so whether the pixel
    survives is decided by what `fillnodata` finds around it (finding D34: nothing beyond its search distance; D25: nothing in the
    block) -/
theorem gain_offset_constant_source_inpainted (n c r rr sr t : ℚ) (fr : Bool) (oF : Option ℚ) :
    fitGainOffsetS ⟨n, n * c, r, n * (c * c), rr, sr⟩ fr (some t) oF = inpainted ⟨n, n * c, r, n * (c * c), rr, sr⟩ oF none :=
  fitGainOffsetS_of_ols_none (ols_of_det_eq_zero (by ring)) fr t oF

/-- **A block whose jointly valid source values are all equal has variance 0** (findings D51, D68): the block normalisation of
    the default model, `std(ref) / std(src)`, then divides by zero - every parameter of the block is inf / NaN, the whole block
    comes out as nodata, and whether a saturated area loses its pixels depends on whether a block fits inside it. -/
theorem variance_of_constant (xs : List ℚ) (c : ℚ) (h : ∀ x ∈ xs, x = c) (hne : xs ≠ []) : variance xs = 0 := by
  have hlen : (xs.length : ℚ) ≠ 0 := Nat.cast_ne_zero.2 (mt List.length_eq_zero_iff.1 hne)
  have hmu : xs.sum / xs.length = c := by
    rw [List.sum_eq_card_nsmul xs c h, nsmul_eq_mul, mul_div_cancel_left₀ c hlen]
  simp only [variance, hmu]
  rw [List.sum_eq_zero (List.forall_mem_map.2 fun x hx => by rw [h x hx, sub_self, mul_zero]), zero_div]

/-! non-vacuity -/
example : (correctedPx (some 3) true [((1:ℚ)/4, ⟨2, 1, none⟩), (3/4, ⟨4, 0, none⟩)]) = some (43/4) := by
  decide +kernel

end Homonim
