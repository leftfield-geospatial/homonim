/-
  C16 — A reference that does not cover the source is always rejected.
-/
import Homonim.Model.Orient

namespace Homonim

/-- **Accepted ⇔ contained** (per axis; an image is accepted iff both axes are): the repaired `covers_bounds`
    accepts exactly when the source footprint lies inside the reference footprint. -/
theorem covers_iff_contains (R S : Axis) :
    coversFixed R S = true ↔ footprintInside R S := by
  unfold coversFixed boundsWinNum footprintInside Axis.edge
  simp only [Bool.and_eq_true, decide_eq_true_eq]
  omega

/-- rejection on each side: an overhang to the left/top or to the right/bottom, by any amount, is rejected -/
theorem overhang_rejected (R S : Axis) (h : S.edge 0 < R.edge 0 ∨ R.edge R.n < S.edge S.n) :
    coversFixed R S = false := by
  rw [← Bool.not_eq_true, covers_iff_contains, footprintInside]
  omega

/-- the very same grid is accepted -/
theorem same_grid_accepted (R : Axis) : coversFixed R R = true := by
  rw [covers_iff_contains]; exact ⟨Int.le_refl _, Int.le_refl _⟩

/-- the predicate **as originally coded** (size ≤ image size instead of offset + size) accepts a source that
    overhangs the right/bottom edge by half its width: the defect D2, kept as a checked witness. -/
theorem covers_coded_counterexample :
    ∃ R S : Axis, coversCoded R S = true ∧ ¬ footprintInside R S :=
  ⟨⟨0, 1, 20⟩, ⟨15, 1, 10⟩, by decide, by decide⟩

/-- the coded predicate never rejects a contained source (it is too lenient, never too strict) -/
theorem covers_coded_of_contains (R S : Axis) (hS : 0 ≤ S.n * S.p) (h : footprintInside R S) :
    coversCoded R S = true := by
  unfold footprintInside Axis.edge at h
  unfold coversCoded boundsWinNum
  simp only [Bool.and_eq_true, decide_eq_true_eq]
  omega

/-- after `same_orientation_crs` both images are north-up and in one CRS, whatever they were and whichever grid is processed -/
theorem sameOrientationCrs_result (src ref : ImState) (procIsSrc : Bool) :
    (sameOrientationCrs src ref procIsSrc).1.northUp = true ∧ (sameOrientationCrs src ref procIsSrc).2.northUp = true ∧
      (sameOrientationCrs src ref procIsSrc).1.crs = (sameOrientationCrs src ref procIsSrc).2.crs := by
  obtain ⟨sn, sc⟩ := src
  obtain ⟨rn, rc⟩ := ref
  unfold sameOrientationCrs
  -- with the comparison of the two CRSs replaced by its value, each case computes
  cases hb : sc == rc
  · cases sn <;> cases rn <;> cases procIsSrc <;> exact ⟨rfl, rfl, rfl⟩
  · cases eq_of_beq hb
    cases sn <;> cases rn <;> cases procIsSrc <;> exact ⟨rfl, rfl, rfl⟩

/-- **Orientation / CRS decision table**: whatever the storage orientation of either image, whether or not the
    CRSs agree, and whichever processing grid is requested, the two images handed on are both north-up and in one
    CRS.  (Finite table; CRS identifiers 0 and 1 stand for "same" / "different".) -/
theorem same_orientation_crs_table :
    ∀ sn rn : Bool, ∀ sc ∈ [0, 1], ∀ rc ∈ [0, 1], ∀ procIsSrc : Bool,
      let r := sameOrientationCrs ⟨sn, sc⟩ ⟨rn, rc⟩ procIsSrc
      r.1.northUp = true ∧ r.2.northUp = true ∧ r.1.crs = r.2.crs :=
  fun sn rn sc _ rc _ procIsSrc => sameOrientationCrs_result ⟨sn, sc⟩ ⟨rn, rc⟩ procIsSrc

/-- images that are already north-up and share a CRS are handed on untouched (no resampling is introduced) -/
theorem same_orientation_identity (c : Nat) (procIsSrc : Bool) :
    sameOrientationCrs ⟨true, c⟩ ⟨true, c⟩ procIsSrc = (⟨true, c⟩, ⟨true, c⟩) := by
  cases procIsSrc <;> simp [sameOrientationCrs]

/-! non-vacuity -/
example : coversFixed ⟨0, 2, 10⟩ ⟨4, 1, 16⟩ = true ∧ coversFixed ⟨0, 2, 10⟩ ⟨4, 1, 17⟩ = false ∧
    coversFixed ⟨0, 2, 10⟩ ⟨-1, 1, 5⟩ = false := by decide

end Homonim
