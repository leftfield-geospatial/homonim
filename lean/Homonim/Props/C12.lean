/-
  C12 — Parameter statistics equal their definitions and agree with what fuse wrote.
  (std is represented by its square: the model takes no square roots.)
-/
import Homonim.Lemmas.Stats
import Mathlib.Algebra.Order.Ring.Rat
import Mathlib.Algebra.Order.BigOperators.Group.List

namespace Homonim

/-- **Tiling does not matter**: accumulating tile by tile over any tiling of the band gives the accumulator of all its
    valid pixels -/
theorem tile_partition_invariant (th : Option ℚ) (tiles : List (List ℚ)) :
    (tiles.map (tileAcc th)).foldl PAcc.add PAcc.zero = tileAcc th tiles.flatten := by
  simp only [funext (tileAcc_eq_foldl th)]
  exact foldl_op_flatten_map (pxAcc th) tiles

/-- **Completion order does not matter** -/
theorem pacc_fold_perm (a b : List PAcc) (h : a.Perm b) : a.foldl PAcc.add PAcc.zero = b.foldl PAcc.add PAcc.zero :=
  h.foldl_op_eq

/-- **Skipping tiles without valid pixels is sound**: an empty tile contributes the neutral accumulator -/
theorem skip_sound (th : Option ℚ) (acc : PAcc) : acc.add (tileAcc th []) = acc := acc.add_zero

/-- ... but deciding *which* tiles to skip from the first band's mask is not: a tile that is empty in band 1 can hold
    valid pixels of another band, and skipping it changes that band's statistics (defect D6, kept as a witness) -/
theorem skip_sound_band1_counterexample :
    ∃ (band2_tiles : List (List ℚ)),
      -- tile 0 is empty in band 1 (so it was skipped for every band) but not in band 2
      (band2_tiles.map (tileAcc none)).foldl PAcc.add PAcc.zero ≠
        ((band2_tiles.drop 1).map (tileAcc none)).foldl PAcc.add PAcc.zero :=
  ⟨[[5], [1]], by decide +kernel⟩

/-- the accumulator in closed form -/
theorem tileAcc_eq (th : Option ℚ) (l : List ℚ) :
    tileAcc th l = ⟨l.min?, l.max?, l.sum, (l.map fun v => v * v).sum, l.length,
      match th with | some t => (l.filter fun v => decide (v < t)).length | none => 0⟩ := by
  induction l with
  | nil => cases th <;> rfl
  | cons x xs ih =>
    rw [tileAcc_cons, ih, List.min?_cons, List.max?_cons]
    simp only [PAcc.add, pxAcc, PAcc.mk.injEq, List.map_cons, List.sum_cons, List.length_cons, true_and]
    refine ⟨?_, ?_, Nat.add_comm _ _, ?_⟩
    · rw [optMin_eq_merge]; cases xs.min? <;> rfl
    · rw [optMax_eq_merge]; cases xs.max? <;> rfl
    · cases th with
      | none => rfl
      | some t => simp only [← List.countP_eq_length_filter, List.countP_cons, decide_eq_true_eq, Nat.add_comm]

/-- **Mean** = sum of the valid pixels / their number -/
theorem mean_def (th : Option ℚ) (l : List ℚ) (hne : l ≠ []) (wi : Bool) :
    (paramStats (tileAcc th l) wi).mean = some (l.sum / (l.length : ℚ)) := by
  rw [tileAcc_eq, paramStats, if_neg (List.length_pos_iff.mpr hne).ne']

/-- **One-pass variance = population variance**: `Σx²/n - (Σx)²/n² = (1/n) Σ (x - μ)²` -/
theorem var_one_pass_eq_population_var (th : Option ℚ) (l : List ℚ) (hne : l ≠ []) (wi : Bool) :
    (paramStats (tileAcc th l) wi).var =
      some ((l.map fun x => (x - l.sum / (l.length : ℚ)) ^ 2).sum / (l.length : ℚ)) := by
  have hl : l.length ≠ 0 := (List.length_pos_iff.mpr hne).ne'
  have hq : (l.length : ℚ) ≠ 0 := Nat.cast_ne_zero.mpr hl
  -- the clamp at 0 never bites in exact arithmetic: the one-pass expression is the (non-negative) population variance
  have hpos : 0 ≤ (l.map fun x => (x - l.sum / (l.length : ℚ)) ^ 2).sum / (l.length : ℚ) :=
    div_nonneg (List.sum_nonneg (List.forall_mem_map.2 fun _ _ => sq_nonneg _)) (Nat.cast_nonneg _)
  -- `Σ (x - μ)² = Σ x² - n μ²` (centred sums); divided by `n` that is the one-pass expression
  have c := sum_centred_mean l id id rfl hq
  simp only [id, List.map_id] at c
  rw [tileAcc_eq, paramStats, if_neg hl, ← max_eq_left hpos]
  simp only [sq, c]
  rw [sub_div, mul_assoc, mul_div_cancel_left₀ _ hq, div_mul_div_comm]

/-- **In-paint percentage** = 100 · #{valid R² < threshold} / n -/
theorem inpaint_pct_def (t : ℚ) (l : List ℚ) (hne : l ≠ []) :
    (paramStats (tileAcc (some t) l) true).inpaintP =
      some (100 * ((l.filter fun v => decide (v < t)).length : ℚ) / (l.length : ℚ)) := by
  rw [tileAcc_eq, paramStats, if_neg (List.length_pos_iff.mpr hne).ne']; rfl

/-- **Min / max**: the reported minimum is a lower bound attained by some valid pixel (and dually the maximum) -/
theorem min_max_def (th : Option ℚ) (l : List ℚ) (hne : l ≠ []) :
    (∃ m, (tileAcc th l).min = some m ∧ m ∈ l ∧ ∀ x ∈ l, m ≤ x) ∧
    (∃ M, (tileAcc th l).max = some M ∧ M ∈ l ∧ ∀ x ∈ l, x ≤ M) := by
  rw [tileAcc_eq]
  obtain ⟨m, hm⟩ := Option.isSome_iff_exists.mp (List.isSome_min?_iff.mpr hne)
  obtain ⟨M, hM⟩ := Option.isSome_iff_exists.mp (List.isSome_max?_iff.mpr hne)
  exact ⟨⟨m, hm, List.min?_eq_some_iff.mp hm⟩, ⟨M, hM, List.max?_eq_some_iff.mp hM⟩⟩

/-- **Which bands are R² bands**: of a 3n-band image exactly the last n (0-based index ≥ 2n) -/
theorem r2_bands (n b : Nat) : isR2Band (3 * n) b = decide (2 * n ≤ b) :=
  decide_eq_decide.mpr (by omega)

/-! non-vacuity -/
example : paramStats (tileAcc (some (1/4)) [1/2, 1/8, 3/4]) true =
    ⟨some (11/24), some (19/288), some (1/8), some (3/4), some (100/3)⟩ := by decide +kernel

end Homonim
