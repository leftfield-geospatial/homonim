/-
  C05 — Blocking is transparent: block overlap gives full kernel coverage at seams.
-/
import Homonim.Lemmas.KernelLocal
import Homonim.Lemmas.Grid

namespace Homonim

/-- **Overlap**: `overlap_for_kernel` is `ceil(k/2)`, i.e. kernel radius + 1 for an odd kernel -/
theorem overlap_for_kernel_spec (k : Nat) :
    overlapForKernel k = (k + 1) / 2 ∧ (k % 2 = 1 → overlapForKernel k = k / 2 + 1) :=
  ⟨rfl, fun h => by unfold overlapForKernel; omega⟩

/-- **The kernel window of every pixel within one pixel of a block's output window lies inside the block's input
    window** (clipped to the processing window): radius `k/2`, plus the one-pixel ring the 2 x 2 up-sampling support can
    reach, is at most the overlap `v = k/2 + 1`.  One axis; `[A, B)` is the processing window. -/
theorem kernel_window_inside_in_block (A B s v : Int) (k : Nat) (hk : ((k / 2 : Nat) : Int) + 1 ≤ v) (j : Nat)
    (p : Int) (hp : (procOut A B s v j).lo - 1 ≤ p ∧ p ≤ (procOut A B s v j).hi)
    (i : Int) (hi : p - ((k / 2 : Nat) : Int) ≤ i ∧ i ≤ p + ((k / 2 : Nat) : Int)) (hAB : A ≤ i ∧ i < B) :
    (procIn A B s v j).lo ≤ i ∧ i < (procIn A B s v j).hi :=
  (block_covers A B s v _ (by omega) hk j).near i (by omega) hAB

/-- **The fit depends only on the pixel's window**: a sub-block `[r0, r0+h) x [c0, c0+w)` of the processing window that
    contains the (clipped) kernel window of `(r, c)` yields exactly the parameters the whole window yields - for all
    three models, given the same block normalisation and in-painted offsets. -/
theorem fit_depends_only_on_window (b : Block) (model : Model) (kh kw : Nat) (fr : Bool) (th : Option ℚ) (n0 n1 : ℚ)
    (oF : Nat → Nat → Option ℚ) (r0 c0 h w r c : Nat) (hr : r0 ≤ r) (hc : c0 ≤ c)
    (hrin : ∀ i, i ∈ axisWin kh b.h r → r0 ≤ i ∧ i < r0 + h) (hcin : ∀ j, j ∈ axisWin kw b.w c → c0 ≤ j ∧ j < c0 + w)
    (hrs : r0 + h ≤ b.h) (hcs : c0 + w ≤ b.w) :
    fitAt (b.crop r0 c0 h w) model kh kw fr th n0 n1 (fun i j => oF (i + r0) (j + c0)) (r - r0) (c - c0) =
      fitAt b model kh kw fr th n0 n1 oF r c := by
  have hm : (b.crop r0 c0 h w).m (r - r0) (c - c0) = b.m r c := by
    unfold Block.crop Block.m; simp only
    rw [Nat.sub_add_cancel hr, Nat.sub_add_cancel hc]
  have hoF : oF (r - r0 + r0) (c - c0 + c0) = oF r c := by rw [Nat.sub_add_cancel hr, Nat.sub_add_cancel hc]
  unfold fitAt
  rw [hm]
  by_cases hmm : b.m r c = true
  · simp only [hmm, if_true]
    cases model with
    | gain =>
      simp only
      rw [sums_eq_ptsSums, sums_eq_ptsSums, winPts_crop b kh kw r0 c0 h w r c hr hc hrin hcin hrs hcs]
    | gainOffset =>
      simp only
      rw [sums_eq_ptsSums, sums_eq_ptsSums, winPts_crop b kh kw r0 c0 h w r c hr hc hrin hcin hrs hcs, hoF]
    | gainBlkOffset =>
      simp only
      have : (b.crop r0 c0 h w).normalised n0 n1 = (b.normalised n0 n1).crop r0 c0 h w := rfl
      rw [this, sums_eq_ptsSums, sums_eq_ptsSums,
        winPts_crop (b.normalised n0 n1) kh kw r0 c0 h w r c hr hc hrin hcin hrs hcs]
  · simp [hmm]

/-- **2 x 2 up-sampling support stays within one pixel of the centre pixel** (nearest: the centre pixel itself;
    bilinear: the two bracketing pixels), so source pixels of an output block read parameters only from the block's
    output window grown by one processing pixel - which `kernel_window_inside_in_block` covers. -/
theorem bilinear_support_near_centre (S D : Axis) (hS : 0 < S.p) (hD : 0 ≤ D.p) (j : Int) :
    ∀ iw ∈ bilinWeights1 S D j, nearestIdx S D j - 1 ≤ iw.1 ∧ iw.1 ≤ nearestIdx S D j + 1 := by
  intro iw hiw
  have := mem_bilinWeights1_fst S D j iw hiw
  rcases nearestIdx_cases S D hS j with h | h <;> omega

/-- weights of the bilinear support are non-negative and sum to the full denominator (a normalised kernel) -/
theorem bilinear_weights_nonneg (S D : Axis) (hS : 0 < S.p) (j : Int) :
    (∀ iw ∈ bilinWeights1 S D j, 0 ≤ iw.2) ∧ ((bilinWeights1 S D j).map (·.2)).sum = 2 * S.p := by
  obtain ⟨b1, b2⟩ := bilinIdx_spec S D hS j
  have := S.edge_succ (bilinIdx S D j)
  refine ⟨(bilinWeights1_weights S D hS j).1, ?_⟩
  simp only [bilinWeights1_eq, List.map_cons, List.map_nil, List.sum_cons, List.sum_nil]
  omega

/-! non-vacuity: 5 x 5 kernel, overlap 3, block 1 of a window [0, 20) with block length 8 -/
example : (procOut 0 20 8 3 1).lo - 1 ≤ (7 : Int) ∧ (7 : Int) ≤ (procOut 0 20 8 3 1).hi ∧
    (procIn 0 20 8 3 1).lo ≤ 7 - 2 := by decide

end Homonim
