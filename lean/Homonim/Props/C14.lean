/-
  C14 — The parameter image is the model that was applied (band layout, labels, source-grid identity).
-/
import Homonim.Model.Layout
import Homonim.Model.Fuse
import Mathlib.Tactic.Linarith
import Mathlib.Data.List.Basic

namespace Homonim

/-- **Layout**: gain, offset and R² of the i-th of n matched bands sit in bands i, n+i and 2n+i (1-based: i+1, ...) -/
theorem param_index_layout (n i : Nat) :
    paramIndex n i 0 = i + 1 ∧ paramIndex n i 1 = n + i + 1 ∧ paramIndex n i 2 = 2 * n + i + 1 := by
  unfold paramIndex; omega

/-- `paramIndex` is inverted by division with remainder: band `b` holds parameter `(b - 1) / n` of pair `(b - 1) % n` -/
theorem paramIndex_decode (n i k : Nat) (hi : i < n) :
    (paramIndex n i k - 1) / n = k ∧ (paramIndex n i k - 1) % n = i := by
  have h : paramIndex n i k - 1 = n * k + i := by rw [paramIndex, Nat.add_sub_cancel, Nat.mul_comm]
  rw [h, Nat.mul_add_div (Nat.zero_lt_of_lt hi), Nat.div_eq_of_lt hi, Nat.mul_add_mod, Nat.mod_eq_of_lt hi]
  exact ⟨rfl, rfl⟩

/-- **Bijection**: every band 1..3n of the parameter image holds exactly one (pair, parameter) -/
theorem param_index_bijective (n : Nat) (hn : 0 < n) (b : Nat) (hb : 1 ≤ b ∧ b ≤ 3 * n) :
    ∃! ik : Nat × Nat, ik.1 < n ∧ ik.2 < 3 ∧ paramIndex n ik.1 ik.2 = b := by
  refine ⟨((b - 1) % n, (b - 1) / n), ⟨Nat.mod_lt _ hn, (Nat.div_lt_iff_lt_mul hn).2 (by omega), ?_⟩, ?_⟩
  · have := Nat.div_add_mod' (b - 1) n
    simp only [paramIndex]
    omega
  · rintro ⟨i, k⟩ ⟨hi, -, rfl⟩
    obtain ⟨hk, hi'⟩ := paramIndex_decode n i k hi
    exact Prod.ext hi'.symm hk.symm

/-- distinct (pair, parameter) never share a band: block writes of different bands/parameters do not collide -/
theorem param_index_injective (n i k i' k' : Nat) (hi : i < n) (hi' : i' < n)
    (h : paramIndex n i k = paramIndex n i' k') : i = i' ∧ k = k' := by
  obtain ⟨hk, hm⟩ := paramIndex_decode n i k hi
  rw [h] at hk hm
  obtain ⟨hk', hm'⟩ := paramIndex_decode n i' k' hi'
  exact ⟨hm.symm.trans hm', hk.symm.trans hk'⟩

theorem pyRange_three (n bi : Nat) (hn : 0 < n) (hbi : bi < n) : pyRange bi (3 * n) n = [bi, bi + n, bi + 2 * n] := by
  unfold pyRange
  rw [show (3 * n - bi + n - 1) / n = 3 from Nat.div_eq_of_lt_le (by omega) (by omega)]
  show [bi + 0 * n, bi + 1 * n, bi + 2 * n] = _
  rw [Nat.zero_mul, Nat.one_mul, Nat.add_zero]

/-- **Labels match the layout**: the metadata loop labels band `paramIndex n i k` with parameter `k`, for every pair
    and parameter, and nothing else -/
theorem descriptions_match_layout (n : Nat) (hn : 0 < n) :
    descrAssignments n (3 * n) =
      (List.range n).flatMap fun i => [(paramIndex n i 0, 0), (paramIndex n i 1, 1), (paramIndex n i 2, 2)] := by
  unfold descrAssignments
  apply List.flatMap_congr
  intro bi hbi
  rw [List.mem_range] at hbi
  rw [pyRange_three n bi hn hbi]
  simp only [List.zip_cons_cons, List.zip_nil_right, List.map_cons, List.map_nil, paramIndex]
  simp only [List.cons.injEq, Prod.mk.injEq, and_true]
  omega

/-- **Accepted by stats**: the suffix expected by `validate_param_image` on band `paramIndex n i k` is `k` -/
theorem layout_accepted_by_validate (n i k : Nat) (hi : i < n) (hk : k < 3) :
    expectedSuffix n (paramIndex n i k) = k ∧ validCount (3 * n) = (n != 0) := by
  refine ⟨(paramIndex_decode n i k hi).1, ?_⟩
  cases n with
  | zero => rfl
  | succ m => simp only [validCount, Nat.mul_mod_right]; rfl

/-- **Source-grid identity**: when processing on the source grid the corrected pixel is `gain·source + offset` with
    the very parameters stored for that pixel (whatever the block partition: the parameters are per pixel) -/
theorem src_grid_apply_identity (x : ℚ) (p : Params) :
    correctedPxSrcGrid (some x) (some p) = some (p.gain * x + p.offset) := rfl

/-! non-vacuity -/
example : descrAssignments 2 6 = [(1, 0), (3, 1), (5, 2), (2, 0), (4, 1), (6, 2)] := by decide

end Homonim
