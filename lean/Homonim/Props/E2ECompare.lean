/-
  E2ECompare — end-to-end partition invariance of the comparison sums (serves C11).
-/
import Homonim.Model.CompareImage
import Homonim.Lemmas.E2ECompare
namespace Homonim

/-- **The comparison sums do not depend on the block partition** (reference-grid processing, the source brought to the
    reference grid by `average`): for every pair of images, every grid geometry and every block shape, accumulating the
    seven sums of the blocks - each computed from what that block read - gives exactly the sums of the single-block run.
    Hence N, r², RMSE and rRMSE (functions of the sums, `bandStats`) are the same for every partition. -/
theorem compare_sums_partition_invariant (p : ImagePair) (hSr : 0 < p.Sr.p) (hSc : 0 < p.Sc.p) (hRr : 0 < p.Rr.p)
    (hRc : 0 < p.Rc.p) (sr sc : Int) (hsr : 0 < sr) (hsc : 0 < sc) :
    p.cmpSumsBlocked sr sc = p.cmpSumsWhole := by
  -- a block's sums are those of the whole pair's points over its output windows; accumulated they are the sums of all those
  -- points (C11), and these are the points of the whole window in another order
  unfold ImagePair.cmpSumsBlocked ImagePair.cmpSumsWhole
  simp only [cmpSumsBlock_eq p hSr hSc hRr hRc]
  rw [accumulate_grid]
  refine blockSums_perm ((grid_blocks_perm _ _ _ _ _).trans (.of_eq ?_))
  rw [indices_blocks _ _ _ _ hsr le_rfl, indices_blocks _ _ _ _ hsc le_rfl]
  rfl

theorem compare_stats_partition_invariant (p : ImagePair) (hSr : 0 < p.Sr.p) (hSc : 0 < p.Sc.p) (hRr : 0 < p.Rr.p)
    (hRc : 0 < p.Rc.p) (sr sc : Int) (hsr : 0 < sr) (hsc : 0 < sc) :
    bandStats (p.cmpSumsBlocked sr sc) = bandStats p.cmpSumsWhole := by
  rw [compare_sums_partition_invariant p hSr hSc hRr hRc sr sc hsr hsc]

/-! non-vacuity: a 0.4 m source on a 0.8 m reference at a half-pixel offset; block shape (2, 3) gives 3 x 2 real blocks
    (the theorem also covers the degenerate cases: an empty or negative-length `refWin` has no block and no point) -/
example :
    let p : ImagePair := ⟨⟨13, 4, 11⟩, ⟨13, 4, 9⟩, ⟨1, 8, 20⟩, ⟨1, 8, 20⟩, fun _ _ => none, fun _ _ => none⟩
    nBlocks (refWin p.Sr p.Rr).lo (refWin p.Sr p.Rr).hi 2 = 3 ∧ nBlocks (refWin p.Sc p.Rc).lo (refWin p.Sc p.Rc).hi 3 = 2 ∧
      (p.blockRows 2 0 1).pout = ⟨3, 5⟩ ∧ (p.blockCols 3 0 1).pout = ⟨4, 6⟩ := by decide

end Homonim
