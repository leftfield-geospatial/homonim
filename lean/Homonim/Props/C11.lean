/-
  C11 — Comparison statistics equal their definitions, whatever the blocking.
  (RMSE and rRMSE are represented by their squares: the model takes no square roots.)
-/
import Homonim.Lemmas.Stats
import Homonim.Lemmas.Kernel

namespace Homonim

/-- **Accumulating the sums of the blocks of any partition gives the sums of the whole image** -/
theorem sums_additive_over_partition (blocks : List (List (ℚ × ℚ))) :
    accumulate (blocks.map blockSums) = blockSums blocks.flatten :=
  accumulate_map_blockSums blocks

/-- **Completion order does not matter**: accumulating the block sums in any order gives the same totals -/
theorem fold_perm (a b : List CSums) (h : a.Perm b) : accumulate a = accumulate b := h.foldl_op_eq

/-- the block sums in terms of the plain sums over the jointly valid pixels -/
theorem blockSums_eq (p : Pts) :
    blockSums p = ⟨sS p, sR p, sSS p, sRR p, sSR p, (p.map fun x => (x.2 - x.1) * (x.2 - x.1)).sum, sN p⟩ := by
  induction p with
  | nil => rfl
  | cons x xs ih => rw [blockSums_cons, ih]; rfl

theorem sN_eq_length (p : Pts) : sN p = p.length := by
  rw [sN, List.map_const', List.sum_replicate, nsmul_one]

/-- **N is the number of jointly valid processing pixels** -/
theorem n_def (p : Pts) : (blockSums p).n = p.length := by
  rw [blockSums_eq, sN_eq_length]

/-- **RMSE² is the mean squared difference over exactly those pixels** -/
theorem rmse_sq_def (p : Pts) (hne : p ≠ []) :
    (bandStats (blockSums p)).rmse2 = some ((p.map fun x => (x.2 - x.1) ^ 2).sum / (p.length : ℚ)) := by
  have hn : (blockSums p).n ≠ 0 := by rw [n_def, Nat.cast_ne_zero]; exact (List.length_pos_iff.mpr hne).ne'
  rw [bandStats, if_neg hn, n_def, blockSums_eq]
  simp only [sq]

/-- **r² is the squared Pearson correlation of the valid pairs** -/
theorem r2_is_pearson_sq (p : Pts) (hN : sN p ≠ 0)
    (hs : (p.map fun x => (x.1 - sS p / sN p) * (x.1 - sS p / sN p)).sum ≠ 0)
    (hr : (p.map fun x => (x.2 - sR p / sN p) * (x.2 - sR p / sN p)).sum ≠ 0) :
    (bandStats (blockSums p)).r2 =
      some ((p.map fun x => (x.1 - sS p / sN p) * (x.2 - sR p / sN p)).sum ^ 2 /
        ((p.map fun x => (x.1 - sS p / sN p) * (x.1 - sS p / sN p)).sum *
         (p.map fun x => (x.2 - sR p / sN p) * (x.2 - sR p / sN p)).sum)) := by
  -- each centred sum is what `bandStats` forms from the block sums: `Σ(s-μs)(r-μr) = ΣSR - N μs μr`, likewise `(s, s)`, `(r, r)`
  have c := fun u v => sum_centred_mean p u v (sN_eq_length p) hN
  simp only [sS, sR, c (·.1) (·.1), c (·.2) (·.2), c (·.1) (·.2)] at hs hr ⊢
  rw [blockSums_eq, bandStats, if_neg hN]
  simp only [divO', sS, sR, sSS, sRR, sSR, ← mul_assoc, mul_ne_zero hs hr, if_false, sq]

/-- **rRMSE² = RMSE² / mean(reference)²** -/
theorem rrmse_def (s : CSums) (hn : s.n ≠ 0) (hm : s.ref / s.n ≠ 0) :
    (bandStats s).rrmse2 = some (s.res2 / s.n / ((s.ref / s.n) * (s.ref / s.n))) := by
  rw [bandStats, if_neg hn]
  exact if_neg (mul_ne_zero hm hm)

/-- **Comparison is blind to invalid pixels**: only the (source, reference) values at jointly valid processing
    pixels enter `blockSums`, by construction of `pts` (C08) -/
theorem compare_sums_congr_on_mask (p q : Pts) (h : p = q) : blockSums p = blockSums q := by rw [h]

/-! non-vacuity -/
example : bandStats (blockSums [(1, 2), (2, 4), (3, 7)]) = ⟨some (75 / 76), some 7, some (63 / 169), 3⟩ := by
  decide +kernel

/-! ### The "Mean" row -/

theorem foldl_addO_none (l : List (Option Rat)) : l.foldl addO none = none := by
  induction l with
  | nil => rfl
  | cons a l ih => cases a <;> exact ih

theorem foldl_addO_some (l : List Rat) (a : Rat) : (l.map some).foldl addO (some a) = some (a + l.sum) := by
  induction l generalizing a with
  | nil => rw [List.sum_nil, add_zero]; rfl
  | cons x l ih => rw [List.sum_cons, ← add_assoc]; exact ih (a + x)

/-- **"Mean" is the band average**: when every band's value is defined, the Mean entry is their sum over their number -/
theorem meanRow_defined (l : List Rat) : meanRow (l.map some) = some (l.sum / (l.length : Rat)) := by
  rw [meanRow, sumOverBands, foldl_addO_some, zero_add, List.length_map]; rfl

/-- **"Mean" is undefined exactly when some band's value is**: an undefined term is neither skipped nor counted as 0 -/
theorem meanRow_none_iff (l : List (Option Rat)) : meanRow l = none ↔ none ∈ l := by
  rw [meanRow, Option.map_eq_none_iff, sumOverBands]
  generalize (0 : Rat) = a
  induction l generalizing a with
  | nil => simp only [List.foldl_nil, List.not_mem_nil, reduceCtorEq]
  | cons x l ih =>
    cases x with
    | none => simp only [List.foldl_cons, addO, foldl_addO_none, List.mem_cons, true_or]
    | some v => simp only [List.foldl_cons, addO, ih, List.mem_cons, reduceCtorEq, false_or]

/-- the pattern of seeded change C11-k - undefined terms left out of the sum, the divisor still the number of bands - gives another
    value than the band average as soon as one band is undefined (bands 0.9, undefined, 0.6: 0.5, where the average is undefined) -/
theorem skipping_mean_differs :
    meanRow [some (9/10), none, some (6/10)] = none ∧
    ((([some (9/10), none, some (6/10)] : List (Option Rat)).filterMap id).sum / 3 : Rat) = 1/2 := by
  constructor
  · exact (meanRow_none_iff _).mpr (List.mem_cons_of_mem _ List.mem_cons_self)
  · simp only [List.filterMap_cons, id, List.filterMap_nil, List.sum_cons, List.sum_nil]; norm_num

/-- non-vacuity: three defined bands -/
example : meanRow [some 1, some 2, some 6] = some 3 := (meanRow_defined [1, 2, 6]).trans (by norm_num)

end Homonim
