/-
  Homonim.Props.SrcTie — the tie between the hand-written model and the *source text* of the package.

  `Homonim/GeneratedCode.lean` is regenerated on every run by the translator `harness/py2lean.py` from the Python AST of
  the arithmetic statements of kernel_model.py, compare.py, stats.py, raster_pair.py, utils.py and fuse.py.  Each theorem
  below says that a definition of the hand-written model (about which the property theorems are proved) is the
  expression the code evaluates.  A change to one of those statements changes the generated definition, and the
  corresponding theorem no longer checks.  Theorem names carry the property they serve: `src_Cxx_…`.
-/
import Homonim.GeneratedCode
import Homonim.Model.Stats
import Homonim.Model.Bands
import Mathlib.Algebra.Order.Field.Basic
import Mathlib.Algebra.Order.Ring.Rat
import Mathlib.Tactic.NormNum
namespace Homonim
open Homonim.Src

/-! ### compare.py (C11) -/

/-- `get_band_stats`: the model's r², RMSE², rRMSE² are the code's `pcc_num² / (radicand·radicand)`, `res2_sum / mask_sum`
    and `(rmse / ref_mean)²` with the square roots squared away (`sqrt x · sqrt x = x`). -/
theorem src_C11_band_stats (s : CSums) (h : s.n ≠ 0) :
    bandStats s =
      { r2 := divO' (cmp_pccNum s.src s.ref s.src2 s.ref2 s.srcRef s.res2 s.n ^ 2)
                (cmp_pccDenSrc s.src s.ref s.src2 s.ref2 s.srcRef s.res2 s.n * cmp_pccDenRef s.src s.ref s.src2 s.ref2 s.srcRef s.res2 s.n)
        rmse2 := some (cmp_rmse2 s.src s.ref s.src2 s.ref2 s.srcRef s.res2 s.n)
        rrmse2 := divO' (cmp_rmse2 s.src s.ref s.src2 s.ref2 s.srcRef s.res2 s.n)
                    (cmp_refMean s.src s.ref s.src2 s.ref2 s.srcRef s.res2 s.n ^ 2)
        n := s.n.floor } := by
  simp only [bandStats, if_neg h, cmp_pccNum, cmp_pccDenSrc, cmp_pccDenRef, cmp_rmse2, cmp_refMean, sq]

/-- with an exact square root the code's `rrmse² = (rmse / ref_mean)²` is the model's `rmse² / ref_mean²` -/
theorem src_C11_rrmse (s : CSums) (sqrt : Rat → Rat) (rm : Rat)
    (hs : rm * rm = cmp_rmse2 s.src s.ref s.src2 s.ref2 s.srcRef s.res2 s.n) :
    cmp_rrmse s.src s.ref s.src2 s.ref2 s.srcRef s.res2 s.n rm ^ 2
      = cmp_rmse2 s.src s.ref s.src2 s.ref2 s.srcRef s.res2 s.n / (cmp_refMean s.src s.ref s.src2 s.ref2 s.srcRef s.res2 s.n ^ 2) := by
  have _ := sqrt
  rw [cmp_rrmse, cmp_refMean, div_pow, sq rm, hs]

/-! ### stats.py (C12) -/

theorem src_C12_param_stats (a : PAcc) (w : Bool) (h : a.n ≠ 0) :
    paramStats a w =
      { mean := some (stats_mean a.sum a.sum2 a.n a.inpaint)
        var := some (stats_var a.sum a.sum2 a.n a.inpaint)
        min := a.min, max := a.max
        inpaintP := if w then some (stats_inpaintP a.sum a.sum2 a.n a.inpaint) else none } := by
  simp only [paramStats, if_neg h, stats_mean, stats_var, stats_inpaintP, sq]

/-- `get_block_sums`: what one jointly valid pixel adds to the seven sums is what the model's `blockSums` adds -/
theorem src_C11_block_sums (pts : List (Rat × Rat)) :
    blockSums pts = pts.foldl (fun s x => s.add ⟨cmpPx_src x.1 x.2, cmpPx_ref x.1 x.2, cmpPx_src2 x.1 x.2, cmpPx_ref2 x.1 x.2,
      cmpPx_srcRef x.1 x.2, cmpPx_res2 x.1 x.2, cmpPx_n x.1 x.2⟩) CSums.zero := by
  simp only [blockSums, cmpPx_src, cmpPx_ref, cmpPx_src2, cmpPx_ref2, cmpPx_srcRef, cmpPx_res2, cmpPx_n, sq]

/-- `ParamStats`: the R2 bands are those with `band_i >= count * 2 / 3`; a pixel counts as in-painted when `R2 < thresh` -/
theorem src_C12_r2_band (count b : Nat) : isR2Band count b = stats_isR2Band count b := by
  rw [isR2Band, stats_isR2Band, decide_eq_decide, div_le_iff₀ (by norm_num), mul_comm 3 b]
  norm_cast

/-! ### matched_pair.py band matching (C15) -/

/-- `_match_pair_bands`: the model's relative distance is the source's `|s - r| / s` - normalised by the *source* wavelength - and
    undefined (masked) for a zero or missing wavelength -/
theorem src_C15_rel_dist (a b : Rat) : relDist (some a) (some b) = if a = 0 then none else some (match_relDist a b) := rfl

/-- the tolerance test, the condition under which wavelengths are used at all, and the greedy step are the source's -/
theorem src_C15_matching (srcW refW : List (Option Rat)) (force : Bool) (d tol : Rat) :
    (npAny srcW && npAny refW && !force) = match_useWavelengths (npAny srcW) (npAny refW) force ∧
      decide (tol < d) = match_tooFar d tol ∧ greedyStepsModel = match_greedySteps := ⟨rfl, rfl, rfl⟩

/-- `RasterCompare._get_image_stats` (C11): the "Mean" entry of a statistic is the source's fold - start at
    `sum_over_bands.get(k, 0)`, add every band's value with `+`, divide by the number of compared bands -/
theorem src_C11_mean_row (vals : List (Option Rat)) :
    meanRow vals = (vals.foldl cmp_meanAcc cmp_meanStart).map (fun t => cmp_meanRow t (vals.length : Rat)) := rfl

end Homonim
