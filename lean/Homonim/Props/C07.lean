/-
  C07 — Radiometric scale laws: source gain irrelevant, reference scale carries through.

  `b.scale a c` multiplies the source of a block by `a` and its reference by `c`; `scaleParams a c` maps
  (gain, offset, R²) to (c/a · gain, c · offset, R²).  All statements are for every block, mask, kernel, model,
  in-paint threshold and positive factors.
-/
import Homonim.Lemmas.KernelScale
import Homonim.Model.Resample

namespace Homonim

/-- **Fit scale law**: fitting the scaled block gives the scaled parameters, at every pixel, for all three models,
    with or without R² and in-painting - provided the external pieces scale as measured: the block normalisation
    `(n0, n1)` becomes `(n0·c/a, n1·c)` and the in-painted offsets scale by `c`. -/
theorem fitAt_scale (b : Block) (a c : ℚ) (ha : 0 < a) (hc : 0 < c) (model : Model) (kh kw : Nat) (fr : Bool)
    (th : Option ℚ) (n0 n1 : ℚ) (oF : Nat → Nat → Option ℚ) (r c' : Nat) :
    fitAt (b.scale a c) model kh kw fr th (n0 * (c / a)) (n1 * c) (fun i j => (oF i j).map (fun o => c * o)) r c' =
      (fitAt b model kh kw fr th n0 n1 oF r c').map (scaleParams a c) := by
  rw [fitAt_eq_fitPts, fitAt_eq_fitPts, winPts_scale]
  change (if b.m r c' then _ else none) = _
  split
  · exact fitPts_scale a c ha hc model _ fr th n0 n1 (oF r c')
  · rfl

/-- source scaled by `a`: gains divide by `a`, offsets and R² are unchanged -/
theorem fit_scale_src (b : Block) (a : ℚ) (ha : 0 < a) (model : Model) (kh kw : Nat) (fr : Bool) (th : Option ℚ)
    (n0 n1 : ℚ) (oF : Nat → Nat → Option ℚ) (r c' : Nat) :
    fitAt (b.scale a 1) model kh kw fr th (n0 * (1 / a)) n1 oF r c' =
      (fitAt b model kh kw fr th n0 n1 oF r c').map fun p => ⟨p.gain / a, p.offset, p.r2⟩ := by
  have h := fitAt_scale b a 1 ha one_pos model kh kw fr th n0 n1 oF r c'
  simp only [mul_one, one_mul, Option.map_id'] at h
  refine h.trans (congrArg (Option.map · _) (funext fun p => ?_))
  simp only [scaleParams, one_mul, one_div, inv_mul_eq_div]

/-- reference scaled by `c`: gains and offsets multiply by `c`, R² is unchanged -/
theorem fit_scale_ref (b : Block) (c : ℚ) (hc : 0 < c) (model : Model) (kh kw : Nat) (fr : Bool) (th : Option ℚ)
    (n0 n1 : ℚ) (oF : Nat → Nat → Option ℚ) (r c' : Nat) :
    fitAt (b.scale 1 c) model kh kw fr th (n0 * c) (n1 * c) (fun i j => (oF i j).map (fun o => c * o)) r c' =
      (fitAt b model kh kw fr th n0 n1 oF r c').map fun p => ⟨c * p.gain, c * p.offset, p.r2⟩ := by
  have h := fitAt_scale b 1 c one_pos hc model kh kw fr th n0 n1 oF r c'
  simp only [div_one] at h
  exact h.trans (congrArg (Option.map · _) (funext fun p => by simp only [scaleParams, div_one]))

/-- **Validity masks do not change** under either scaling -/
theorem mask_unchanged (b : Block) (a c : ℚ) (ha : 0 < a) (hc : 0 < c) (model : Model) (kh kw : Nat) (fr : Bool)
    (th : Option ℚ) (n0 n1 : ℚ) (oF : Nat → Nat → Option ℚ) (r c' : Nat) :
    (fitAt (b.scale a c) model kh kw fr th (n0 * (c / a)) (n1 * c) (fun i j => (oF i j).map (fun o => c * o)) r c').isSome
      = (fitAt b model kh kw fr th n0 n1 oF r c').isSome := by
  rw [fitAt_scale b a c ha hc, Option.isSome_map]

/-- **R² values do not change** under either scaling -/
theorem r2_unchanged (b : Block) (a c : ℚ) (ha : 0 < a) (hc : 0 < c) (model : Model) (kh kw : Nat) (fr : Bool)
    (th : Option ℚ) (n0 n1 : ℚ) (oF : Nat → Nat → Option ℚ) (r c' : Nat) :
    (fitAt (b.scale a c) model kh kw fr th (n0 * (c / a)) (n1 * c) (fun i j => (oF i j).map (fun o => c * o)) r c').map
      (·.r2) = (fitAt b model kh kw fr th n0 n1 oF r c').map (·.r2) := by
  rw [fitAt_scale b a c ha hc, Option.map_map]
  rfl

/-- **Apply**: the scaled parameters applied to the scaled source give `c` times the corrected value -/
theorem apply_scale (a c : ℚ) (ha : a ≠ 0) (p : Params) (x : ℚ) :
    applyParams (scaleParams a c p) (a * x) = c * applyParams p x := by
  simp only [applyParams, scaleParams]
  linear_combination (p.gain * x) * div_mul_cancel₀ c ha

/-- **Resampling is homogeneous**: a normalised weighted mean of values scaled by `k` is `k` times the mean, with the
    same validity (so the source seen on the processing grid, and the parameters seen on the source grid, scale). -/
theorem resample_linear (k : ℚ) (l : List (ℚ × ℚ)) :
    wmean (l.map fun p => (p.1, k * p.2)) = (wmean l).map (fun v => k * v) :=
  wmean_map_mul k l

/-- **Corrected pixel under scaling, through the up-sampling of the parameters**: if every processing-grid pixel in
    the support carries the scaled parameters, the corrected source pixel is unchanged for a source scaling
    (`c = 1`) and multiplied by `c` for a reference scaling. -/
theorem corrected_scale (a c : ℚ) (ha : a ≠ 0) (l : List (ℚ × Params)) (x : ℚ) :
    (upsampleParams (l.map fun p => (p.1, scaleParams a c p.2))).map (fun go => go.1 * (a * x) + go.2) =
      (upsampleParams l).map (fun go => c * (go.1 * x + go.2)) := by
  have hg := resample_linear (c / a) (l.map fun p => (p.1, p.2.gain))
  have ho := resample_linear c (l.map fun p => (p.1, p.2.offset))
  simp only [List.map_map, Function.comp_def] at hg ho
  simp only [upsampleParams, List.map_map, Function.comp_def, scaleParams, hg, ho]
  cases wmean (l.map fun p => (p.1, p.2.gain)) with
  | none => rfl
  | some g =>
    cases wmean (l.map fun p => (p.1, p.2.offset)) with
    | none => rfl
    | some o => exact congrArg some (apply_scale a c ha ⟨g, o, none⟩ x)

/-- population variance scales with the square: `std(k·x) = |k|·std(x)` (the block normalisation gain `n0` therefore
    scales by `c/a`) -/
theorem variance_scale (k : ℚ) (xs : List ℚ) : variance (xs.map fun x => k * x) = k ^ 2 * variance xs := by
  have hs : (xs.map fun x => k * x).sum = k * xs.sum := by rw [List.sum_map_mul_left, List.map_id']
  simp only [variance, List.length_map, List.map_map, Function.comp_def, hs]
  rw [← mul_div_assoc]
  congr 1
  exact sum_map_eq_mul xs fun x _ => by ring

/-! non-vacuity: a concrete block scaled by (2, 3): base fit (2, 1, R² = 1) becomes (3/2·2, 3·1, 1) -/
def exBlockS : Block :=
  { h := 2, w := 3
    src := fun r c => (r * 3 + c + 1 : Nat)
    ref := fun r c => (2 * (r * 3 + c) + 3 : Nat)
    sm := fun r c => !(r == 1 && c == 1)
    rm := fun _ _ => true }

example : fitAt (exBlockS.scale 2 3) .gainOffset 1 3 true none 1 0 (fun _ _ => none) 0 1 = some ⟨3, 3, some 1⟩ := by
  decide +kernel

end Homonim
