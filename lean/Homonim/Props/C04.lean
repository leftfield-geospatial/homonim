/-
  C04 — Results do not depend on thread count or block interleaving.

  All statements quantify over every number of threads, every job list, every fault plan and every schedule (a
  schedule is any list of thread ids; steps that are not enabled are skipped, so every list is a legal schedule and every
  execution of the machine is the run of some list).
-/
import Homonim.Lemmas.Sched

namespace Homonim

/-- reachable states: runs of arbitrary schedules from the initial state -/
def Reachable (param : Bool) (faults : Faults) (jobs : List Nat) (T : Nat) (s : SState) : Prop :=
  ∃ sched : List Nat, s = runSched param faults (initState jobs T) sched

/-- **Lock invariant holds in every reachable state** -/
theorem reachable_inv (param : Bool) (faults : Faults) (jobs : List Nat) (T : Nat) (s : SState)
    (h : Reachable param faults jobs T s) : SInv param s :=
  sinv_reach h

/-- **Mutual exclusion**: in every reachable state at most one thread is inside the critical section of a file -/
theorem mutex_invariant (param : Bool) (faults : Faults) (jobs : List Nat) (T : Nat) (s : SState)
    (h : Reachable param faults jobs T s) (r : Res) (t1 t2 : Nat) (ts1 ts2 : TState)
    (h1 : s.threads[t1]? = some (some ts1)) (h2 : s.threads[t2]? = some (some ts2))
    (hh1 : holdsAt param ts1.pc r = true) (hh2 : holdsAt param ts2.pc r = true) : t1 = t2 := by
  have hinv := reachable_inv param faults jobs T s h
  exact Option.some.inj (((hinv r t1).2 ⟨ts1, h1, hh1⟩).symm.trans ((hinv r t2).2 ⟨ts2, h2, hh2⟩))

/-- **Every file access happens under the file's lock**: a thread about to do `io r` owns the lock of `r` -/
theorem io_under_lock (param : Bool) (faults : Faults) (jobs : List Nat) (T : Nat) (s : SState)
    (h : Reachable param faults jobs T s) (t : Nat) (ts : TState) (r : Res)
    (ht : s.threads[t]? = some (some ts)) (hio : instrAt param ts.pc = some (.io r)) : s.owner r = some t :=
  (reachable_inv param faults jobs T s h r t).2 ⟨ts, ht, holdsAt_iff.mpr (Or.inl hio)⟩

/-- **Locks are never nested**: a thread holds at most one lock at a time -/
theorem no_nested_locks (param : Bool) (pc : Nat) (r r' : Res)
    (h : holdsAt param pc r = true) (h' : holdsAt param pc r' = true) : r = r' := by
  rcases holdsAt_iff.mp h with h1 | h1 <;> rcases holdsAt_iff.mp h' with h2 | h2 <;>
    rw [h1] at h2 <;> cases h2 <;> rfl

/-- **No deadlock**: every reachable state that is not final has a thread whose next step is enabled - under every
    fault plan -/
theorem progress (param : Bool) (faults : Faults) (jobs : List Nat) (T : Nat) (hT : 0 < T) (s : SState)
    (h : Reachable param faults jobs T s) (hnf : s.final = false) : ∃ t, (step param faults s t).isSome = true :=
  (sinv_reach h).progress (by rw [(jinv_reach (faults := faults) h).len]; exact hT) hnf

/-- the remaining work of a state: queued jobs and the unexecuted instructions of running jobs -/
def remaining (param : Bool) (s : SState) : Nat :=
  s.queue.length * ((prog param).length + 2) +
    (s.threads.map fun th => match th with | none => 0 | some ts => (prog param).length + 1 - ts.pc).sum

/-- **Termination**: every enabled step strictly decreases the remaining work, so every execution is finite -/
theorem step_decreases (param : Bool) (faults : Faults) (s s' : SState) (t : Nat)
    (hpc : ∀ (t : Nat) (ts : TState), s.threads[t]? = some (some ts) → ts.pc ≤ (prog param).length)
    (h : step param faults s t = some s') : remaining param s' < remaining param s := by
  have e := sum_map_set (fun th : Option TState => match th with
    | none => 0 | some ts => (prog param).length + 1 - ts.pc) s.threads t
  unfold remaining
  cases step_cases h with
  | @take j rest hth hq =>
    have e := e none (some ⟨j, 0⟩) hth
    rw [hq]
    simp only [List.length_cons, Nat.succ_mul] at e ⊢
    omega
  | @adv ts i hth hi =>
    have e := e (some ts) (some ⟨ts.job, ts.pc + 1⟩) hth
    have := instrAt_lt_len hi
    simp only at e ⊢
    omega
  | @stop ts _ _ hth =>
    have e := e (some ts) none hth
    have := hpc t ts hth
    simp only at e ⊢
    omega

/-- **Each block is written at most once per file** -/
theorem writes_nodup (param : Bool) (faults : Faults) (jobs : List Nat) (hnd : jobs.Nodup) (T : Nat) (s : SState)
    (h : Reachable param faults jobs T s) : s.writes.Nodup :=
  (jinv_reach (faults := faults) h).nodup hnd

-- `hnd` is not needed by the proof (a block written twice stores the same values twice)
set_option linter.unusedVariables false in
/-- **Order independence of disjoint writes**: if the blocks' windows are pairwise disjoint (C06) and each block is
    written once, the final array is the same for every order of the writes -/
theorem applyWrites_order_indep {α : Type} (cover : Nat → Nat → Bool) (val : Nat → Nat → α) (init : Nat → α)
    (ws ws' : List Nat) (hperm : ws.Perm ws') (hnd : ws.Nodup)
    (hdisj : ∀ b ∈ ws, ∀ b' ∈ ws, b ≠ b' → ∀ x, ¬ (cover b x = true ∧ cover b' x = true)) :
    applyWrites cover val init ws = applyWrites cover val init ws' :=
  applyWrites_perm cover val init ws ws' hperm hdisj

/-- **Schedule independence**: without faults, any two complete schedules - with any numbers of threads - leave the same
    corrected array (and the same parameter array), given pairwise disjoint output windows -/
theorem schedule_independent {α : Type} (param : Bool) (jobs : List Nat) (hnd : jobs.Nodup) (T1 T2 : Nat) (s1 s2 : SState)
    (h1 : Reachable param (fun _ _ => false) jobs T1 s1) (h2 : Reachable param (fun _ _ => false) jobs T2 s2)
    (hf1 : s1.final = true) (hf2 : s2.final = true)
    (cover : Nat → Nat → Bool) (val : Nat → Nat → α) (init : Nat → α)
    (hdisj : ∀ b ∈ jobs, ∀ b' ∈ jobs, b ≠ b' → ∀ x, ¬ (cover b x = true ∧ cover b' x = true)) (r : Res) :
    applyWrites cover val init ((s1.writes.filter fun w => w.2 = r).map Prod.fst) =
      applyWrites cover val init ((s2.writes.filter fun w => w.2 = r).map Prod.fst) := by
  have a1 := jinv_reach h1
  have a2 := jinv_reach h2
  have ok1 := a1.outcome_ok_of_no_faults
  refine applyWrites_perm cover val init _ _
    (a1.final_ok_writes_perm a2 hnd hf1 hf2 ok1 a2.outcome_ok_of_no_faults r) fun b hb b' hb' => ?_
  have m := fun j hj => ((a1.final_ok_writes_iff hf1 ok1 j r).mp (mem_map_fst_filter_snd.mp hj)).1
  exact hdisj b (m b hb) b' (m b' hb')

/-! ### The shared model object -/

/-- **A model that stores nothing is interleaving-independent**: whatever the order of the blocks' `fit` and `apply` steps - any
    number of other blocks fitted between a block's own fit and its correction - every corrected block is what the model computes
    for that block alone from the initial state -/
theorem stateless_compute_interleaving_independent {σ P V : Type} (m : SharedModel σ P V) (h : m.Stateless) (s0 : σ)
    (es : List CEv) (ps : Nat → Option P) (hps : ∀ k p, ps k = some p → p = (m.fit s0 k).2) :
    ∀ jv ∈ runCompute m s0 ps es, jv.2 = m.apply s0 jv.1 (m.fit s0 jv.1).2 := by
  induction es generalizing ps with
  | nil => nofun
  | cons e es ih =>
    cases e with
    | fit j =>
      rw [runCompute, h s0 j]
      refine ih _ fun k p hk => ?_
      split at hk
      · subst k; exact (Option.some.inj hk).symm
      · exact hps k p hk
    | apply j =>
      rw [runCompute]
      split
      · rename_i p hp
        rintro jv (_ | ⟨_, hmem⟩)
        · rw [hps j p hp]
        · exact ih ps hps jv hmem
      · exact ih ps hps

/-- the pattern of seeded change C04-k: `fit` notes on the object whether the block it just fitted was empty (here: block 1 is),
    `apply` returns a nodata block (0) when the note is set and the correction (`p + 1`) otherwise -/
def notingModel : SharedModel Bool Nat Nat where
  fit := fun _ j => (j == 1, j)
  apply := fun s _ p => if s then 0 else p + 1

/-- **A model that stores into itself is not**: block 0 is corrected properly when its own steps are adjacent, and comes out as
    nodata when block 1 is fitted in between - two schedules of the same two blocks, two results -/
theorem noting_model_schedule_dependent :
    runCompute notingModel false (fun _ => none) [.fit 0, .apply 0, .fit 1, .apply 1] = [(0, 1), (1, 0)] ∧
    runCompute notingModel false (fun _ => none) [.fit 0, .fit 1, .apply 0, .apply 1] = [(0, 0), (1, 0)] ∧
    ¬ notingModel.Stateless := by
  exact ⟨by decide, by decide, fun h => nomatch h false 1⟩

/-- non-vacuity: a model that only reads its configuration is stateless -/
example : (⟨fun s j => (s, j + s), fun s _ p => p * s⟩ : SharedModel Nat Nat Nat).Stateless := fun _ _ => rfl


end Homonim
